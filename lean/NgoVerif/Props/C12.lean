import NgoVerif.Meta.Algebra
import NgoVerif.Meta.M4
import NgoVerif.Generated.Tables
import NgoVerif.Proofs.C12pos
/-!
# C12 — minmax_chains: chains compute the same #min/#max, including the empty case

Ground-level content of the chain encoding over a finite domain `D` with covering relation `next`:
`chain(v)` ⇔ some selected element is ≥ v ⇔ v ≤ max (`C12_chain`); the result rule
`max(v) :- chain(v), not chain(n) : next(v,n)` picks exactly the maximum (`C12_result_is_max`), *provided a selected
element exists*: with none selected no chain atom holds (`C12_empty_no_chain`) and the result must come from the
`#inf/#sup` rule, whose body needs the domain's extreme element — on an empty domain nothing is derived (finding D1).  The chain and next
predicates are positive-recursive definitions: their least-fixpoint extension is stable (`C12_chain_rules_sound`,
M4 ⇒).  Differences along the chain add up to the extreme value (`C12_telescope`).
-/
namespace NgoVerif

theorem C12_chain (S : Finset Int) (m : Int) (hm : m ∈ S) (hmax : ∀ s ∈ S, s ≤ m) (v : Int) :
    Alg.chainAt S v ↔ v ≤ m :=
  Alg.chain_iff_le_max hm hmax

theorem C12_result_is_max (D S : Finset Int) (hSD : S ⊆ D) (m : Int) (hm : m ∈ S) (hmax : ∀ s ∈ S, s ≤ m)
    (next : Int → Int → Prop)
    (hnext : ∀ a b, next a b ↔ a ∈ D ∧ b ∈ D ∧ a < b ∧ ∀ c ∈ D, ¬ (a < c ∧ c < b)) (v : Int) (hv : v ∈ D) :
    (Alg.chainAt S v ∧ ∀ n, next v n → ¬ Alg.chainAt S n) ↔ v = m :=
  Alg.result_is_max D S hSD m hm hmax next hnext v hv

theorem C12_empty_no_chain (v : Int) : ¬ Alg.chainAt ∅ v :=
  fun ⟨s, hs, _⟩ => Finset.notMem_empty s hs

/-- `hno` (no defined atom is in `T`: the intended use) is not needed by the proof -/
theorem C12_chain_rules_sound {α : Type} (P : HT.Prog α) (D : HT.RDefs α) (hP : ∀ r, P r → HT.Indep D.A r)
    (T : HT.Interp α) (hT : HT.Stable P T) (hno : ∀ a, D.A a → ¬ T a) :
    HT.Stable (HT.Union P D.prog) (HT.rext D T) :=
  HT.rdef_ext_sound D hP hT

theorem C12_telescope (a : Int) (l : List Int) : a + Alg.tele (a :: l) = (a :: l).getLast (List.cons_ne_nil _ _) :=
  Alg.tele_eq a l

/-- the chain variable replaces the result, not a group variable: `_create_replacement` overwrites position
`mapping[idx]` of the translated argument list, `idx` being the result's position in the old atom.
That position holds the old atom's result argument (no later argument is mapped to it); position `idx` itself is a
different one as soon as the result is not the last argument of the head (`res(X,P)`). -/
theorem C12_result_position (mapping : List (Option Nat)) (args : List Term) (out : List (Option Term)) (idx j : Nat)
    (h : MinMax.translateParameters mapping args = .ok out) (hidx : mapping[idx]? = some (some j))
    (hlast : ∀ k, idx < k → mapping[k]? ≠ some (some j)) :
    (out[j]?).join = args[idx]? :=
  Proofs.C12pos.go_position h hidx hlast

/-- `res(X,P)` over the chain predicate `chain(P,X)`: the result `X` (old position 0) sits at new position 1 -/
example : MinMax.translateParameters [some 1, some 0] [.var "X", .var "P"] = .ok [some (.var "P"), some (.var "X")] := by rfl

/-- the rows of `C01_wiring` for this pass -/
theorem C12_wiring :
    Tables.API_ARGS.lookup "minmax_chains" = some (["input_", "input_predicates"], "input_", "input_") ∧
    Tables.CTOR_PARAMS.lookup "minmax_chains" = some ["prg", "input_predicates"] := by decide +kernel

end NgoVerif
