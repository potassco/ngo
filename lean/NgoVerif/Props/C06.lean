import NgoVerif.Proofs.C16heads
import NgoVerif.Meta.Compose
import NgoVerif.Meta.Basic
import NgoVerif.Meta.M4
import NgoVerif.Proofs.C20heads
/-!
# C06 — traits that only add auxiliary predicates keep all source atoms, one-to-one

Every rule the seven passes *add* defines a fresh predicate by plain (non-choice, non-disjunctive) rules over
existing atoms; such an addition is a one-to-one conservative extension (M3 both directions for non-recursive
definitions, M4 ⇒ for the positive-recursive chain/next rules), conservative extensions compose, and the
projection to the source vocabulary is injective on the answer sets of the result (`C06_injective`): the number of
answer sets is unchanged.
-/
namespace NgoVerif
open Compose

theorem C06_compose {Prog Inst Model : Type} (AS : Prog → Inst → Model → Prop) (p1 p2 : Model → Model)
    (P Q R : Prog) (h1 : ConsExt AS p1 P Q) (h2 : ConsExt AS p2 Q R) : ConsExt AS (p1 ∘ p2) P R :=
  ConsExt.trans h1 h2

theorem C06_injective {Prog Inst Model : Type} (AS : Prog → Inst → Model → Prop) (proj : Model → Model)
    (P Q : Prog) (h : ConsExt AS proj P Q) (I : Inst) (m m' : Model) (hm : AS Q I m) (hm' : AS Q I m')
    (he : proj m = proj m') : m = m' :=
  ConsExt.injective h I m m' hm hm' he

theorem C06_aux_sound {α : Type} (P : HT.Prog α) (D : HT.Defs α) (hP : ∀ r, P r → HT.Indep D.A r)
    (T : HT.Interp α) (hT : HT.Stable P T) : HT.Stable (HT.Union P D.rules) (HT.ext D T) :=
  HT.def_ext_sound D hP hT

theorem C06_aux_complete {α : Type} (P : HT.Prog α) (D : HT.Defs α) (hP : ∀ r, P r → HT.Indep D.A r)
    (hpers : ∀ a H T, HT.Sub H T → D.dfn a H T → D.dfn a T T)
    (T' : HT.Interp α) (hT' : HT.Stable (HT.Union P D.rules) T') :
    ∃ T, HT.Stable P T ∧ ∀ a, T' a ↔ HT.ext D T a :=
  ⟨_, HT.def_ext_complete D hP hpers hT'⟩

/-- M4 ⇒ (chain, next); `hno` is not needed by the proof -/
theorem C06_recursive_aux_sound_partial {α : Type} (P : HT.Prog α) (D : HT.RDefs α)
    (hP : ∀ r, P r → HT.Indep D.A r) (T : HT.Interp α) (hT : HT.Stable P T) (hno : ∀ a, D.A a → ¬ T a) :
    HT.Stable (HT.Union P D.prog) (HT.rext D T) :=
  HT.rdef_ext_sound D hP hT

/-- the syntactic premise under which `C06_aux_sound`, `C06_recursive_aux_sound_partial` apply to what `dependency.py`
adds -/
theorem C06_order_aux_plain (st st' : Dep.DomState) (r : Dep.Req) (rs : List Stm)
    (h : Dep.runReq st r = (.ok rs, st')) : rs.all Proofs.C20heads.plainRule = true :=
  Proofs.C20heads.runReq_plain st r rs st' h

/-- the same premise for `projection`: `C16_heads_kept` in `Props/C16.lean` -/
theorem C06_projection_heads_kept (prg : Prog) (inputs : List Pred) (out : Prog) (h : projection prg inputs = .ok out) :
    ∀ s ∈ out, ∃ o ∈ prg, Proofs.C16heads.FromStm o s :=
  Proofs.C16heads.executeRest_heads h

end NgoVerif
