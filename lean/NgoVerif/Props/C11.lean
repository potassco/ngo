import NgoVerif.Proofs.C11check
import NgoVerif.Sem.Head
import NgoVerif.Generated.Tables
import NgoVerif.Proofs.Eval
import NgoVerif.Meta.Algebra
import NgoVerif.Meta.Basic
/-!
# C11 — symmetry: ordered/counted joins fire exactly when the != joins fired

Ground-level content: if the rest of the rule is symmetric in the two copies, "some pair with x ≠ y" and "some pair
with x < y" are the same condition (`C11_neq_to_lt`); without symmetry they are not (`C11_neq_to_lt_counterexample`:
that is why the compared variables must not be visible elsewhere); "two different witnesses" is "count ≥ 2"
(`C11_count`); inside aggregates the count is moved to an auxiliary rule, which is definitional extension
(`C11_aux`).  For typed programs the rewrite of one literal `X != Y` to `X < Y` is a strong equivalence under the
condition `Symmetric` (`C11_neq_to_lt_strongeq`, `C11_neq_to_lt_stable`), which the executable `symCheck`
implies under the standard head semantics (`C11_check_strongeq`); the driver evaluates `symCheck` on the rewrites the
real pass performs.  That the pass's own test for symmetry (`Model/Symmetry.lean`) implies the check is not proved, and
the count / auxiliary-rule rewrites are stated at the ground level only: both are validated by the oracle (finding D28).
-/
namespace NgoVerif

theorem C11_neq_to_lt (R : Int → Int → Prop) (hsym : ∀ x y, R x y → R y x) :
    (∃ x y, x ≠ y ∧ R x y) ↔ (∃ x y, x < y ∧ R x y) :=
  Alg.neq_to_lt R hsym

theorem C11_neq_to_lt_counterexample :
    ∃ R : Int → Int → Prop, ¬ ((∃ x y, x ≠ y ∧ R x y) ↔ (∃ x y, x < y ∧ R x y)) :=
  Alg.neq_to_lt_counterexample

theorem C11_count {α : Type} [DecidableEq α] (s : Finset α) : (∃ x ∈ s, ∃ y ∈ s, x ≠ y) ↔ 2 ≤ s.card :=
  Finset.one_lt_card.symm

theorem C11_aux {α : Type} (P : HT.Prog α) (D : HT.Defs α) (hP : ∀ r, P r → HT.Indep D.A r)
    (T : HT.Interp α) (hT : HT.Stable P T) : HT.Stable (HT.Union P D.rules) (HT.ext D T) :=
  HT.def_ext_sound D hP hT

/-- the rows of `C01_wiring` for this pass -/
theorem C11_wiring :
    Tables.API_ARGS.lookup "symmetry" = some (["input_", "input_predicates"], "input_", "input_") ∧
    Tables.CTOR_PARAMS.lookup "symmetry" = some ["prg", "input_predicates"] := by decide +kernel

open Proofs.C11sem in
/-- `Symmetric` (`Proofs/C11sem.lean`): the rest of the rule is symmetric in the two compared variables; the proof rests on
the renaming lemma of `Sem/Rename.lean` -/
theorem C11_neq_to_lt_strongeq (P : Sem.PParams) (σ : String → String) (pre post : Prog) (l c : Nat) (X Y : String)
    (h : Head) (b : List BLit) (hs : Symmetric P σ X Y h b) :
    Sem.StrongEq P (pre ++ .rule l c h (b ++ [cmpBLit X .ne Y]) :: post)
      (pre ++ .rule l c h (b ++ [cmpBLit X .lt Y]) :: post) :=
  neq_to_lt_strongEq hs pre post

open Proofs.C11sem in
theorem C11_neq_to_lt_stable (P : Sem.PParams) (σ : String → String) (pre post : Prog) (l c : Nat) (X Y : String)
    (h : Head) (b : List BLit) (hs : Symmetric P σ X Y h b) (T : Sem.Interp) :
    Sem.Stable P (pre ++ .rule l c h (b ++ [cmpBLit X .ne Y]) :: post) T ↔
      Sem.Stable P (pre ++ .rule l c h (b ++ [cmpBLit X .lt Y]) :: post) T :=
  (neq_to_lt_strongEq hs pre post).stable P T

/-- under the standard head semantics the head condition of `Symmetric` holds as soon as `σ` fixes the variables of
the head -/
theorem C11_head_condition (P : Sem.Params) (σ : String → String) (h : Head) (hfix : ∀ v ∈ h.vars, σ v = v)
    (G : String → Prop) (e : Sem.Env) (H T : Sem.Interp) :
    (Sem.stdParams P).headSat G (fun v => e (σ v)) H T h ↔ (Sem.stdParams P).headSat G e H T h :=
  Sem.headSat_of_fix hfix

open Proofs.C11sem Proofs.C11check in
/-- `htotal`: for every parameter choice whose `!=` is `<` or `>` -/
theorem C11_check_strongeq (P : Sem.Params) (htotal : ∀ x y, P.rel .ne x y ↔ (P.rel .lt x y ∨ P.rel .lt y x))
    (ps : List (String × String)) (pre post : Prog) (l c : Nat) (X Y : String) (h : Head) (b : List BLit)
    (hc : symCheck ps X Y h b = true) :
    Sem.StrongEq (Sem.stdParams P) (pre ++ .rule l c h (b ++ [cmpBLit X .ne Y]) :: post)
      (pre ++ .rule l c h (b ++ [cmpBLit X .lt Y]) :: post) :=
  neq_to_lt_strongEq (symCheck_sound htotal hc) pre post

/-! `f :- p(A,S), p(B,S), A != B.` satisfies the symmetry condition with the plain swap, and
`f :- q(A,V), q(B,W), V != W, A != B.` with the double swap `A↔B, V↔W` -/
section Example
open Proofs.C11sem Sem
private def pA : BLit := .lit (.pos, .sym (.fn "p" [.var "A", .var "S"] false))
private def pB : BLit := .lit (.pos, .sym (.fn "p" [.var "B", .var "S"] false))
example : ∀ l ∈ [pA, pB], renameBLit (swap "A" "B") l ∈ [pA, pB] ∨
    ∃ U V, renameBLit (swap "A" "B") l = cmpBLit U .ne V ∧ cmpBLit V .ne U ∈ [pA, pB] := by
  intro l hl
  left
  simp only [List.mem_cons, List.not_mem_nil, or_false] at hl
  rcases hl with rfl | rfl <;>
    simp [renameBLit, renameLit, renameAtom, renameTerm, renameTerms, swap, pA, pB]
private def sw2 : String → String := fun v =>
  if v = "A" then "B" else if v = "B" then "A" else if v = "V" then "W" else if v = "W" then "V" else v
private def qAV : BLit := .lit (.pos, .sym (.fn "q" [.var "A", .var "V"] false))
private def qBW : BLit := .lit (.pos, .sym (.fn "q" [.var "B", .var "W"] false))
example : ∀ l ∈ [qAV, qBW, cmpBLit "V" .ne "W"], renameBLit sw2 l ∈ [qAV, qBW, cmpBLit "V" .ne "W"] ∨
    ∃ U V, renameBLit sw2 l = cmpBLit U .ne V ∧ cmpBLit V .ne U ∈ [qAV, qBW, cmpBLit "V" .ne "W"] := by
  intro l hl
  simp only [List.mem_cons, List.not_mem_nil, or_false] at hl
  rcases hl with rfl | rfl | rfl
  · left; simp [renameBLit, renameLit, renameAtom, renameTerm, renameTerms, sw2, qAV, qBW]
  · left; simp [renameBLit, renameLit, renameAtom, renameTerm, renameTerms, sw2, qAV, qBW]
  · right; exact ⟨"W", "V", by simp [renameBLit, renameLit, renameAtom, renameTerm, renameGuards, renameGuard, sw2, cmpBLit], by simp⟩
end Example

/-! `f :- p(A,S), p(B,S), A != B.` with the swap `A↔B` passes `symCheck` -/
namespace C11ex
open Proofs.C11check Proofs.C11sem Sem
def atomL (n : String) (vs : List String) : BLit := .lit (.pos, .sym (.fn n (vs.map Term.var) false))
theorem check : symCheck [("A", "B")] "A" "B" (.lit (.pos, .sym (.fn "f" [] false)))
    [atomL "p" ["A", "S"], atomL "p" ["B", "S"]] = true := by
  simp only [ngo_eval, symCheck, symGlobals, symHead, globalsList, cmpBLit, atomL]
  decide +kernel
example (P : Params) (htotal : ∀ x y, P.rel .ne x y ↔ (P.rel .lt x y ∨ P.rel .lt y x)) (pre post : Prog) :
    StrongEq (stdParams P)
      (pre ++ .rule 1 1 (.lit (.pos, .sym (.fn "f" [] false))) ([atomL "p" ["A", "S"], atomL "p" ["B", "S"]] ++ [cmpBLit "A" .ne "B"]) :: post)
      (pre ++ .rule 1 1 (.lit (.pos, .sym (.fn "f" [] false))) ([atomL "p" ["A", "S"], atomL "p" ["B", "S"]] ++ [cmpBLit "A" .lt "B"]) :: post) :=
  C11_check_strongeq P htotal [("A", "B")] pre post 1 1 "A" "B" _ _ check
end C11ex

end NgoVerif
