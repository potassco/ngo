import NgoVerif.Model.Api
import NgoVerif.Props.C07
/-!
# C03 — `optimize` always returns

What is provable here and what is not:
* every *modelled* loop is a total Lean function (structural recursion or fuel with a `…_total` theorem, e.g.
  `C07_names_total`, `C07_vars_total`); no `partial`, no `maxHeartbeats 0`;
* the outer `while True … if input_ == old: break` of `api.optimize` has **no** termination proof (it depends on
  every pass, including sympy).  What *is* proved is the decision rule the check uses instead of waiting for a
  time-out: a repeated state that is not a fixpoint is a proof of divergence (`C03_cycle_diverges`), and a run that
  exits does so exactly at a fixpoint of the iteration (`C03_exit_is_fixpoint`);
* the pass order is the documented one (table theorem over the generated `API_ORDER`).
-/
namespace NgoVerif
open Tables

def iter {σ : Type} (f : σ → σ) : Nat → σ → σ
  | 0, s => s
  | n + 1, s => iter f n (f s)

theorem iter_succ' {σ : Type} (f : σ → σ) : ∀ (n : Nat) (s : σ), iter f (n + 1) s = f (iter f n s)
  | 0, _ => rfl
  | n + 1, s => iter_succ' f n (f s)

theorem iter_mem_cycle {σ : Type} {f : σ → σ} {s : σ} {i j : Nat} (hij : i < j) (hc : iter f i s = iter f j s) :
    ∀ n, i ≤ n → ∃ k, i ≤ k ∧ k < j ∧ iter f n s = iter f k s := by
  intro n hn
  obtain ⟨d, rfl⟩ := Nat.exists_eq_add_of_le hn
  clear hn
  induction d with
  | zero => exact ⟨i, Nat.le_refl i, hij, rfl⟩
  | succ d ih =>
    obtain ⟨k, hik, hkj, h⟩ := ih
    rw [← Nat.add_assoc, iter_succ', h, ← iter_succ' f]
    rcases Nat.lt_or_eq_of_le (Nat.succ_le_of_lt hkj) with h' | rfl
    · exact ⟨k + 1, Nat.le_succ_of_le hik, h', rfl⟩
    · exact ⟨i, Nat.le_refl i, hij, hc.symm⟩

/-- M9: a state that re-appears with no fixpoint inside the cycle: the loop `until step s = s` never exits -/
theorem C03_cycle_diverges {σ : Type} (step : σ → σ) (s : σ) (i j : Nat) (hij : i < j)
    (hc : iter step (i) s = iter step (j) s)
    (hnf : ∀ k, i ≤ k → k < j → iter step (k + 1) s ≠ iter step (k) s) :
    ∀ n, i ≤ n → iter step (n + 1) s ≠ iter step (n) s := by
  intro n hn
  obtain ⟨k, hik, hkj, h⟩ := iter_mem_cycle hij hc n hn
  rw [iter_succ', h, ← iter_succ' step]
  exact hnf k hik hkj

theorem C03_exit_is_fixpoint {σ : Type} [BEq σ] [LawfulBEq σ] (pl : Pipeline σ) (flags : List (String × Bool)) :
    ∀ (fuel : Nat) (s : σ) (r : Except String σ), optimizeLoop pl flags fuel s = some r →
      (∃ e, r = .error e) ∨ ∃ t, iteration pl flags t = .ok t ∧ r = pl.post t := by
  intro fuel s
  fun_induction optimizeLoop pl flags fuel s with
  | case1 => exact fun r h => nomatch h  -- out of fuel: no result
  | case2 _ s e _ => exact fun r h => .inl ⟨e, (Option.some.inj h).symm⟩  -- the iteration fails
  | case3 _ s s' hi heq =>  -- the iteration returns the state it was given: the loop exits
    obtain rfl := eq_of_beq heq
    exact fun r h => .inr ⟨s', hi, (Option.some.inj h).symm⟩
  | case4 _ s s' _ _ ih => exact ih  -- another state: one more round

/-- the documented pass order, read from `api.py` on every run -/
theorem C03_pass_order :
    API_ORDER.map (·.1) = ["cleanup", "unused", "duplication", "symmetry", "minmax_chains", "sum_chains", "math",
      "inline", "projection"] := rfl

theorem C03_iteration_stages (flags : List (String × Bool)) :
    iterationStages flags =
      (["cleanup", "unused", "duplication", "symmetry", "minmax_chains", "sum_chains", "math", "inline", "projection"].filter
        fun t => (flags.lookup t).getD false) ++ ["exline"] := by
  unfold iterationStages
  rw [← C03_pass_order, List.filter_map]
  rfl

/-- the naming loops of `UniqueNames` (used by projection, duplication, symmetry, unused, dependency) terminate -/
theorem C03_name_loops_terminate (s : UniqueNames) (ops : List NameOp) : (s.run ops).isSome :=
  C07_names_total s ops

example : ∀ n, 0 ≤ n → iter (fun b : Bool => !b) (n + 1) true ≠ iter (fun b : Bool => !b) n true :=
  C03_cycle_diverges (fun b : Bool => !b) true 0 2 (by decide) (by decide) (by intro k _ hk; match k, hk with | 0, _ => decide | 1, _ => decide)

end NgoVerif
