import NgoVerif.Meta.Compose
import NgoVerif.Model.Api
/-!
# C01 — the optimised program has the same answer sets on the output predicates

`optimize` is `preprocess`, then a loop of pass applications, then `postprocess`.  C01 is the *composition* of the
per-pass guarantees (C05, C08–C16): proved here is that the composition is sound for any number of pass
applications and loop iterations (`C01_compose`), that an observation on IN ∪ OUT or on the whole source vocabulary
gives the one on OUT (`C01_coarsen`), that a one-to-one conservative extension gives it as well
(`C01_from_consext`), that satisfiability never changes (`C01_sat`), and that the model's schedule is exactly the
enabled passes in the documented order (`C03_iteration_stages` in `Props/C03.lean`, `C01_schedule`).
The per-pass premises are proved only as far as the per-pass property files say; they are validated on the real
code by the clingo oracle under all trait subsets, so C01 as a whole is `_partial`: exactly as strong as the weakest
pass lemma (see DESIGN.md §9).
-/
namespace NgoVerif
open Compose

theorem C01_compose {Prog Inst Model Obs : Type} (AS : Prog → Inst → Model → Prop) (obs : Model → Obs)
    (P : Prog) (steps : List Prog) (h : Chain (EquivOn AS obs) P steps) :
    EquivOn AS obs P ((P :: steps).getLast (List.cons_ne_nil _ _)) :=
  chain_equiv P steps h

theorem C01_coarsen {Prog Inst Model Obs Obs' : Type} (AS : Prog → Inst → Model → Prop) (obs : Model → Obs)
    (f : Obs → Obs') (P Q : Prog) (h : EquivOn AS obs P Q) : EquivOn AS (f ∘ obs) P Q :=
  EquivOn.coarsen f h

theorem C01_from_consext {Prog Inst Model Obs : Type} (AS : Prog → Inst → Model → Prop) (proj : Model → Model)
    (obs : Model → Obs) (P Q : Prog) (h : ConsExt AS proj P Q) (hobs : ∀ m, obs (proj m) = obs m) :
    EquivOn AS obs P Q :=
  ConsExt.equivOn h hobs

theorem C01_sat {Prog Inst Model Obs : Type} (AS : Prog → Inst → Model → Prop) (obs : Model → Obs) (P Q : Prog)
    (h : EquivOn AS obs P Q) (I : Inst) : (∃ m, AS P I m) ↔ (∃ m, AS Q I m) :=
  EquivOn.sat h I

/-- the stage names of a run with `n` iterations, which the correspondence compares with the NGO_VERIF trace -/
theorem C01_schedule (flags : List (String × Bool)) (n : Nat) :
    traceStages flags n = "preprocess" :: (List.replicate n (iterationStages flags)).flatten ++ ["postprocess"] := rfl

/-- what a constructor parameter of a pass class must be given inside `optimize` -/
def expectedArg : String → String
  | "prg" => "input_"
  | p => p            -- `input_predicates`, `output_predicates`: the caller's declarations, under the same name

/-- in `api.optimize` (read from the source on every run by `harness/extract_tables.py`) each pass class is constructed
with the current program for `prg` and the caller's declaration lists under their own names, is executed on the current
program and its result becomes the current program.  The per-pass properties (C08–C16) are stated for the declared
IN/OUT: a pass that received the wrong list would protect the wrong predicates. -/
theorem C01_wiring :
    Tables.API_ARGS.map (fun x => (x.1, x.2.1)) = Tables.CTOR_PARAMS.map (fun x => (x.1, x.2.map expectedArg)) ∧
    Tables.API_ARGS.all (fun x => x.2.2.1 == "input_" && x.2.2.2 == "input_") = true ∧
    Tables.API_ARGS.map (·.1) = Tables.API_ORDER.map (·.1) := by decide +kernel

end NgoVerif
