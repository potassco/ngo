import NgoVerif.Generated.Tables
import NgoVerif.Meta.Algebra
import NgoVerif.Model.SumAgg
import NgoVerif.Proofs.Except
/-!
# C13 — sum_chains: chained weights add up to the original sum or objective

For a predicate with at most one value per group, the value `d_k` contributes `d_k` to the sum; the chain encoding
contributes the base weight `d₀` (least domain value) plus `dᵢ₊₁ − dᵢ` for every chain step up to `k`
(`C13_telescope`), which is the same number — for any sorted domain, negative and repeated-free values included.
Tuples stay distinct because the `next` atom is appended (`C13_flatten`: the sum over the union of per-step tuple
sets is the sum of sums iff they are disjoint).  "At most one per group" must really hold (finding D17) and groups
must not be merged (finding D16; `C13_merged_groups_counterexample` is what goes wrong) — both are decisions of the pass,
modelled in `Model/SumAgg.lean` (tied to the code by `corr_sumagg.py`).  Of that model one invariant of the decision
kernel is proved: at-most-one is claimed only for a predicate with exactly one defining rule (`C13_atmost_single_rule`);
that the decisions are right is validated by the oracle.
-/
namespace NgoVerif

theorem C13_telescope (a : Int) (l : List Int) (k : Nat) (hk : k ≤ l.length) :
    a + Alg.tele ((a :: l).take (k + 1)) = (a :: l)[k]'(by simp; omega) :=
  Alg.tele_take a l k hk

theorem C13_flatten {G T : Type} [DecidableEq T] (groups : Finset G) (elems : G → Finset T) (w : T → Int)
    (hdisj : ∀ g ∈ groups, ∀ g' ∈ groups, g ≠ g' → Disjoint (elems g) (elems g')) :
    ∑ t ∈ groups.biUnion elems, w t = ∑ g ∈ groups, ∑ t ∈ elems g, w t :=
  Finset.sum_biUnion hdisj

theorem C13_merged_groups_counterexample :
    ∃ (groups : Finset Bool) (elems : Bool → Finset Int) (w : Int → Int),
      ∑ t ∈ groups.biUnion elems, w t ≠ ∑ g ∈ groups, ∑ t ∈ elems g, w t :=
  Alg.sum_flatten_counterexample

/-- the rows of `C01_wiring` for this pass -/
theorem C13_wiring :
    Tables.API_ARGS.lookup "sum_chains" = some (["input_", "input_predicates"], "input_", "input_") ∧
    Tables.CTOR_PARAMS.lookup "sum_chains" = some ["prg", "input_predicates"] := by decide +kernel

open SumAgg in
theorem atMostLoop_single {prg : Prog} {ps : List Pred} {am al am' al' : List SumAgg.APred}
    (h : atMostLoop prg ps am al = .ok (am', al')) (hinv : ∀ a ∈ am, (rulesThatDerive prg a.pred).length = 1) :
    ∀ a ∈ am', (rulesThatDerive prg a.pred).length = 1 := by
  fun_induction atMostLoop prg ps am al
  case case1 => cases h; exact hinv  -- no predicate left
  case case2 p _ _ _ r hr ih =>
    obtain ⟨⟨m, l⟩, -, h⟩ := Except.bind_eq_ok_iff.mp h
    -- the step adds only `APred`s of `p`, and `p` has the single rule `r` (`hr`)
    refine ih m l h fun b hb => ?_
    rcases List.mem_append.mp hb with hb | hb
    · exact hinv b hb
    · rw [eq_of_beq (List.mem_filter.mp hb).2, hr]; rfl
  case case3 ih => exact ih h hinv  -- `p` has no or several rules: skipped
open SumAgg in
/-- the invariant `_calc_at_most` keeps: the bound of a choice/aggregate head says nothing about atoms a second rule
derives -/
theorem C13_atmost_single_rule (prg : Prog) (inputs : List Pred) (am al : List SumAgg.APred)
    (h : calcAtMost prg inputs = .ok (am, al)) : ∀ a ∈ am, (rulesThatDerive prg a.pred).length = 1 :=
  atMostLoop_single h fun _ ha => nomatch ha

end NgoVerif
