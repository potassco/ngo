import NgoVerif.Model.Options
/-!
# C19 — the command line is the API: option algebra over the *generated* tables

`ALL_OPTIONS`, `DEFAULT_OPTIONS`, `ENABLE_KEYWORDS`, `MAIN_WIRING`, `API_DEFAULTS` are re-extracted from
`parser.py`, `__main__.py`, `api.py` on every run, so these theorems are re-checked against what the code says now.
-/
namespace NgoVerif
open Tables

theorem insertStr_perm (s : String) : ∀ l : List String, (insertStr s l).Perm (s :: l)
  | [] => .refl _
  | t :: ts => by
    unfold insertStr
    split
    · exact .refl _
    · exact ((insertStr_perm s ts).cons t).trans (.swap s t ts)

theorem sortStrs_perm : ∀ l : List String, (sortStrs l).Perm l
  | [] => .refl _
  | s :: ss => (insertStr_perm s _).trans ((sortStrs_perm ss).cons s)

theorem mem_sortStrs {x : String} {l : List String} : x ∈ sortStrs l ↔ x ∈ l := (sortStrs_perm l).mem_iff

theorem eq_singleton_of_mem {α} {a : α} : ∀ {l : List α}, a ∈ l → l.length ≤ 1 → l = [a]
  | [_], h, _ => by rw [List.mem_singleton.mp h]
  | _ :: _ :: _, _, h => absurd h (by simp)

theorem C19_tables :
    ALL_OPTIONS.length = 9 ∧ ALL_OPTIONS.Nodup ∧
    (∀ t ∈ DEFAULT_OPTIONS, t ∈ ALL_OPTIONS) ∧
    (∀ t ∈ ALL_OPTIONS, t ∈ DEFAULT_OPTIONS ↔ t ≠ "duplication") ∧
    (∀ t ∈ ALL_OPTIONS, t ∉ ENABLE_KEYWORDS) ∧
    ENABLE_KEYWORDS = ["all", "none", "default"] := by
  decide +kernel

theorem not_keyword_of_option {t : String} (ht : t ∈ ALL_OPTIONS) : t ≠ "all" ∧ t ≠ "none" ∧ t ≠ "default" := by
  obtain ⟨-, -, -, -, hnot, hkeywords⟩ := C19_tables
  simpa only [hkeywords, List.mem_cons, List.not_mem_nil, or_false, not_or] using hnot t ht

theorem expandEnable_some {vs en : List String} (h : expandEnable vs = some en) :
    ("none" ∈ vs → vs = ["none"]) ∧
    en = if "all" ∈ vs then ALL_OPTIONS
      else if "default" ∈ vs then sortStrs (vs.filter (· != "default") ++ DEFAULT_OPTIONS) else vs := by
  simp only [expandEnable, Option.ite_none_left_eq_some, Option.some.injEq, Bool.and_eq_true, decide_eq_true_eq,
    List.contains_iff_mem, not_and] at h
  obtain ⟨-, -, hn, rfl⟩ := h
  refine ⟨fun h => eq_singleton_of_mem h (Nat.le_of_not_lt fun hl => hn hl h), ?_⟩
  split
  · rw [if_neg (by decide : "default" ∉ ALL_OPTIONS)]
  · rfl

/-- for every accepted `--enable` list each trait is enabled exactly when the documented meaning (`specFlag`) says so:
`all` ↦ all nine, `default` ↦ all but duplication, names ↦ themselves, `default` plus names ↦ union, `none` ↦ nothing -/
theorem C19_enable (vs en : List String) (h : expandEnable vs = some en) :
    ∀ t ∈ ALL_OPTIONS, en.contains t = specFlag vs t := by
  obtain ⟨hnone, rfl⟩ := expandEnable_some h
  intro t ht
  obtain ⟨-, hnon, hdef⟩ := not_keyword_of_option ht
  by_cases hN : "none" ∈ vs
  · obtain rfl := hnone hN
    simp [specFlag, hnon]                                    -- `none` alone: nothing
  · by_cases hA : "all" ∈ vs
    · simp [specFlag, hN, hA, ht]                            -- `all`: every trait
    · by_cases hD : "default" ∈ vs
      · simp [specFlag, mem_sortStrs, hN, hA, hD, hdef]      -- `default`: the other names and the default selection
      · simp [specFlag, hN, hA, hD]                          -- names only

theorem ite_none_eq_none {α} {p : Prop} [Decidable p] {b : Option α} : (if p then none else b) = none ↔ p ∨ b = none := by
  rw [ite_eq_left_iff, Decidable.or_iff_not_imp_left]

theorem C19_reject (vs : List String) :
    expandEnable vs = none ↔
      vs = [] ∨ (∃ v ∈ vs, v ∉ ENABLE_KEYWORDS ++ ALL_OPTIONS) ∨ (vs.length > 1 ∧ "none" ∈ vs) := by
  -- each `if g then none else …` of `expandEnable` contributes its guard `g`
  simp only [expandEnable, ite_none_eq_none, reduceCtorEq, or_false, List.isEmpty_iff, Bool.not_eq_true',
    List.all_eq_false, List.contains_iff_mem, Bool.and_eq_true, decide_eq_true_eq]

/-- every keyword of `optimize` receives the membership test of its own name, each trait exactly once -/
theorem C19_wiring :
    (∀ p ∈ MAIN_WIRING, p.1 = p.2) ∧
    (MAIN_WIRING.map (·.1)).Nodup ∧
    (∀ t, t ∈ MAIN_WIRING.map (·.1) ↔ t ∈ ALL_OPTIONS) ∧
    (∀ t, t ∈ API_DEFAULTS.map (·.1) ↔ t ∈ ALL_OPTIONS) :=
  ⟨by decide +kernel, by decide +kernel,
    fun _ => (by decide +kernel : (MAIN_WIRING.map (·.1)).Perm ALL_OPTIONS).mem_iff,
    fun _ => (by decide +kernel : (API_DEFAULTS.map (·.1)).Perm ALL_OPTIONS).mem_iff⟩

/-- the API's own defaults are the documented `default` selection -/
theorem C19_api_defaults : ∀ p ∈ API_DEFAULTS, p.2 = DEFAULT_OPTIONS.contains p.1 := by decide +kernel

theorem C19_flags (en : List String) : ∀ p ∈ flagsOf en, p.2 = en.contains p.1 := by
  intro p hp
  obtain ⟨⟨kw, name⟩, hw, rfl⟩ := List.mem_map.mp hp
  obtain rfl : kw = name := C19_wiring.1 _ hw
  rfl

theorem C19_predlist_special :
    predicateList none = .preds [] ∧ predicateList (some "") = .preds [] ∧ predicateList (some "auto") = .auto :=
  ⟨rfl, rfl, rfl⟩

example : expandEnable ["default", "duplication"] = some (sortStrs (["duplication"] ++ DEFAULT_OPTIONS)) := rfl
example : specFlag ["default", "duplication"] "duplication" = true ∧ specFlag ["default"] "duplication" = false := by
  decide +kernel
end NgoVerif
