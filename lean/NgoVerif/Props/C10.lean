import NgoVerif.Proofs.C10multi
import NgoVerif.Generated.Tables
import NgoVerif.Proofs.Eval
/-!
# C10 — duplication: a factored-out literal set means what the replaced literals meant

Replacing a set of literals `S` that occurs in several bodies by an auxiliary atom `aux(V̄)` defined by
`aux(V̄) :- S.` is an instance of definitional extension plus folding (M3, M3f): the auxiliary atom holds for exactly
the bindings for which all replaced literals hold, *provided* the definition's body does not mention the new atom and
the occurrence is literally the defining body under the same binding (every variable needed outside is passed on).
This is what `D : HT.Defs` and the hypotheses `hP`, `hF` of `C10_fold` say.  That the body is persistent is needed for
the converse only: every stable model of the program with the definition is the extension of one without
(`C10_aux_means_body`).
* ground schema: `C10_fold`, `C10_aux_means_body`, and factoring under the side condition `Glue` (`C10_factor_sound`,
  `C10_factor_complete`);
* typed programs (every statement under its own global variables, standard head semantics): the one-to-one
  correspondence of answer sets for the first place of use (`C10_factor_first_sound`, `_complete`), the same stable
  models for a further one (`C10_factor_next_partial`), and all places of use at once (`C10_factor_all_sound`,
  `_complete`), from syntactic conditions that the executable checks `dupCheck`, `placeCheck`, `ctxAvoidsCheck` imply
  (`C10_check_sound`, `C10_all_check_sound`); that aggregates are persistent is used by the two `_complete` statements
  only, the others take the hypothesis because the side conditions `C16sem.Cond` / `SplitData.WF` bundle it; places of
  use inside conditions or aggregate elements are outside;
* the pass's own decision (binding analysis, connectedness, canonical renaming; `Model/Duplication.lean`, tied to the
  code by correspondence) is not proved to imply the checks: the driver evaluates them on what the real pass factors,
  and what fails them is validated by the oracle.
-/
namespace NgoVerif

/-- `hpers` is not needed by the proof -/
theorem C10_fold {α : Type} (P Pf : HT.Prog α) (D : HT.Defs α) (hP : ∀ r, P r → HT.Indep D.A r)
    (hpers : ∀ a H T, HT.Sub H T → D.dfn a H T → D.dfn a T T)
    (hF : HT.Folding D P Pf) (T' : HT.Interp α) :
    HT.Stable (HT.Union P D.rules) T' ↔ HT.Stable (HT.Union Pf D.rules) T' :=
  HT.fold_stable hP hF T'

theorem C10_aux_means_body {α : Type} (P : HT.Prog α) (D : HT.Defs α) (hP : ∀ r, P r → HT.Indep D.A r)
    (hpers : ∀ a H T, HT.Sub H T → D.dfn a H T → D.dfn a T T)
    (T' : HT.Interp α) (hT' : HT.Stable (HT.Union P D.rules) T') :
    ∃ T, HT.Stable P T ∧ ∀ a, T' a ↔ HT.ext D T a :=
  ⟨_, HT.def_ext_complete D hP hpers hT'⟩


/-- `Glue`: environments can be re-assembled across the interface `t` (every variable of the literal set `N` needed
outside is passed on) -/
theorem C10_factor_sound {α E K : Type} (S : HT.SplitData α E K) (h : S.WF) (hg : S.Glue) (T : HT.Interp α)
    (hT : HT.Stable S.orig T) : HT.Stable (HT.Union S.folded (S.defs h).rules) (HT.ext (S.defs h) T) :=
  S.split_sound h hg T hT

theorem C10_factor_complete {α E K : Type} (S : HT.SplitData α E K) (h : S.WF) (hg : S.Glue) (T' : HT.Interp α)
    (hT' : HT.Stable (HT.Union S.folded (S.defs h).rules) T') :
    ∃ T, HT.Stable S.orig T ∧ ∀ a, T' a ↔ HT.ext (S.defs h) T a :=
  S.split_complete h hg T' hT'

/-- the rows of `C01_wiring` for this pass -/
theorem C10_wiring :
    Tables.API_ARGS.lookup "duplication" = some (["input_", "input_predicates"], "input_", "input_") ∧
    Tables.CTOR_PARAMS.lookup "duplication" = some ["prg", "input_predicates"] := by decide +kernel

/-! `u : Use` (`Proofs/C10stm.lean`) is one place of use: the rule `head :- body.`, the canonical auxiliary rule `aux(V̄) :- Sb.` the pass emits and
the renaming `σ` that turns it into the copy at that place.  `u.split.orig` is the rule before, `u.split.updRule` the
rule after (`head :- rest, aux(σ V̄).`), `u.canon` the auxiliary rule. -/
open Proofs.C10stm Proofs.C16stm in
theorem C10_factor_first_sound (P : Sem.Params) (hp : Sem.AggPersistent P) (u : Use) (hinv : ∀ v, u.σ (u.σ v) = v)
    (hok : Ok u.split) (pre post : Prog) (hctx : CtxOk u.split pre post) (T : Sem.Interp)
    (hT : Sem.Stable (Sem.stdParams P) (pre ++ u.split.orig :: post) T) :
    Sem.Stable (Sem.stdParams P) (pre ++ u.canon :: u.split.updRule :: post)
      (Proofs.C16sem.extend (Sem.stdParams P) (fun v => v ∈ u.split.G0) u.split.syn T) :=
  factor_first_sound P hp u hinv hok pre post hctx T hT

open Proofs.C10stm Proofs.C16stm in
theorem C10_factor_first_complete (P : Sem.Params) (hp : Sem.AggPersistent P) (u : Use) (hinv : ∀ v, u.σ (u.σ v) = v)
    (hok : Ok u.split) (pre post : Prog) (hctx : CtxOk u.split pre post) (T' : Sem.Interp)
    (hT' : Sem.Stable (Sem.stdParams P) (pre ++ u.canon :: u.split.updRule :: post) T') :
    ∃ T, Sem.Stable (Sem.stdParams P) (pre ++ u.split.orig :: post) T ∧
      ∀ a, T' a ↔ Proofs.C16sem.extend (Sem.stdParams P) (fun v => v ∈ u.split.G0) u.split.syn T a :=
  factor_first_complete P hp u hinv hok pre post hctx T' hT'

open Proofs.C10multi in
/-- `before c ps ctx` (`Proofs/C10multi.lean`) is the context followed by the rules `headᵢ :- bodyᵢ.`, `after c ps ctx` the
context, the auxiliary rule `aux(V̄) :- S.` and the rules `headᵢ :- restᵢ, aux(σᵢ V̄).`; `extendAll` adds exactly the
auxiliary atoms whose literal set holds at some place of use -/
theorem C10_factor_all_sound (P : Sem.Params) (hpers : Sem.AggPersistent P) (c : Canon) (ps : List Place)
    (hne : 0 < ps.length) (hps : ∀ p ∈ ps, PlaceOk c p) (ctx : Prog) (hctx : CtxAvoids c ctx) (T : Sem.Interp)
    (hT : Sem.Stable (Sem.stdParams P) (before c ps ctx) T) :
    Sem.Stable (Sem.stdParams P) (after c ps ctx) (extendAll P c ps T) :=
  factor_all_sound P hpers c ps hne hps ctx hctx T hT

open Proofs.C10multi in
theorem C10_factor_all_complete (P : Sem.Params) (hpers : Sem.AggPersistent P) (c : Canon) (ps : List Place)
    (hne : 0 < ps.length) (hps : ∀ p ∈ ps, PlaceOk c p) (ctx : Prog) (hctx : CtxAvoids c ctx) (T' : Sem.Interp)
    (hT' : Sem.Stable (Sem.stdParams P) (after c ps ctx) T') :
    ∃ T, Sem.Stable (Sem.stdParams P) (before c ps ctx) T ∧ ∀ a, T' a ↔ extendAll P c ps T a :=
  factor_all_complete P hpers c ps hne hps ctx hctx T' hT'

open Proofs.C10multi in
theorem C10_all_check_sound (c : Canon) (line col : Nat) (head : Head) (body rest : List BLit)
    (pairs : List (String × String)) (ctx : Prog)
    (h1 : placeCheck c line col head body rest pairs = true) (h2 : ctxAvoidsCheck c ctx = true) :
    PlaceOk c (placeOf line col head body rest pairs) ∧ CtxAvoids c ctx :=
  ⟨placeCheck_sound h1, ctxAvoidsCheck_sound h2⟩

open Proofs.C10stm Proofs.C16stm in
/-- one further place of use, the auxiliary rule being present (`C10_factor_all_*` needs the list of all places);
`_partial`: the context must not mention the auxiliary predicate -/
theorem C10_factor_next_partial (P : Sem.Params) (hp : Sem.AggPersistent P) (u : Use) (hinv : ∀ v, u.σ (u.σ v) = v)
    (hok : Ok u.split) (pre post : Prog) (hctx : CtxOk u.split pre post) (T : Sem.Interp) :
    Sem.Stable (Sem.stdParams P) (pre ++ u.canon :: u.split.orig :: post) T ↔
      Sem.Stable (Sem.stdParams P) (pre ++ u.canon :: u.split.updRule :: post) T :=
  factor_next hp hinv hok hctx T

open Proofs.C10stm Proofs.C16stm in
/-- `dupCheck` gives the hypotheses `hinv`, `hok`, `hctx` of the three theorems about one place of use -/
theorem C10_check_sound (line col : Nat) (head : Head) (body rest : List BLit) (auxName : String) (V args : List String)
    (Sb : List BLit) (la ca : Nat) (pre post : Prog)
    (h : dupCheck (useOf line col head body rest auxName V args Sb la ca) (V.zip args) pre post = true) :
    (∀ v, (useOf line col head body rest auxName V args Sb la ca).σ ((useOf line col head body rest auxName V args Sb la ca).σ v) = v) ∧
      Ok (useOf line col head body rest auxName V args Sb la ca).split ∧
      CtxOk (useOf line col head body rest auxName V args Sb la ca).split pre post :=
  dupCheck_sound rfl h

/-! `__aux_1(V1,V2) :- p(V1,V2), q(V2).` used in `h(A) :- p(A,B), q(B), r(A,B).` as `h(A) :- r(A,B), __aux_1(A,B).` next to
another rule -/
namespace C10ex
open Proofs.C10multi Proofs.C10stm Proofs.C16stm Sem
def atomL (n : String) (vs : List String) : BLit := .lit (.pos, .sym (.fn n (vs.map Term.var) false))
def headL (n : String) (vs : List String) : Head := .lit (.pos, .sym (.fn n (vs.map Term.var) false))
def c : Canon := { auxName := "__aux_1", V := ["V1", "V2"], Sb := [atomL "p" ["V1", "V2"], atomL "q" ["V2"]], la := 1, ca := 1 }
def pl : Place := placeOf 2 1 (headL "h" ["A"]) [atomL "p" ["A", "B"], atomL "q" ["B"], atomL "r" ["A", "B"]] [atomL "r" ["A", "B"]]
  [("V1", "A"), ("V2", "B")]
def ctx : Prog := [.rule 3 1 (headL "g" ["A"]) [atomL "r" ["A", "A"]]]
theorem check : placeCheck c 2 1 (headL "h" ["A"]) [atomL "p" ["A", "B"], atomL "q" ["B"], atomL "r" ["A", "B"]] [atomL "r" ["A", "B"]]
    [("V1", "A"), ("V2", "B")] = true ∧ ctxAvoidsCheck c ctx = true := by
  simp only [ngo_eval, placeCheck, placeOf, Canon.split, Canon.use, Canon.G, varAtomHead, Use.split, splitCheck, Split.G0, Split.Ga,
    Split.Gu, Split.auxB, Proofs.C16sem.auxLit, Proofs.C16sem.auxAtomTerm, c, atomL, headL]
  decide +kernel
example (P : Params) (hp : AggPersistent P) (T : Interp) (hT : Stable (stdParams P) (before c [pl] ctx) T) :
    Stable (stdParams P) (after c [pl] ctx) (extendAll P c [pl] T) :=
  have ok := C10_all_check_sound c _ _ _ _ _ _ ctx check.1 check.2
  C10_factor_all_sound P hp c [pl] (by decide) (fun _ hp' => List.mem_singleton.mp hp' ▸ ok.1) ctx ok.2 T hT
end C10ex

end NgoVerif
