import NgoVerif.Proofs.Eval
import NgoVerif.Proofs.C20dom
import NgoVerif.Meta.M4
import NgoVerif.Model.Order
import NgoVerif.Proofs.C20heads
/-!
# C20 — generated domain and order predicates describe the real domain

The specification against which the auxiliary extensions of every answer set are checked: for the sorted,
duplicate-free list of domain values of a group, the consecutive pairs are exactly the covering relation
(`C20_next_is_cover`), the head is the least and the last the greatest element (`C20_min`, `C20_max`).  The check
recomputes these from the `__dom_` extension clingo reports (`orderSpec`: `C20_order_spec_next`, `_min`, `_max`) and
compares with the `__min_/__max_/__next_` extensions.
Domain/next/chain rules are positive-recursive plain rules (that their heads are plain positive atoms is
`C20_generated_rules_plain`, for the model of `DomainPredicates`; the bodies are not examined): adding them is a conservative extension (`C20_rules_conservative`, the ground schema M4 ⇒).
Over-approximation (`p ⊆ dom_p`) is proved for typed programs that pass the executable `coveredCheck`
(`C20_domain_overapproximates`, `Proofs/C20dom.lean`; the driver evaluates the check on what the passes produce).  For
programs that fail the check (among them the instances of finding D6), and for choice-independence of `dom_p`, it is
observed on the real code.
-/
namespace NgoVerif

theorem C20_next_is_cover (l : List Int) (hs : l.Pairwise (· < ·)) (a b : Int) :
    (a, b) ∈ Cover.consecutive l ↔ a ∈ l ∧ b ∈ l ∧ a < b ∧ ∀ c ∈ l, ¬ (a < c ∧ c < b) :=
  Cover.consecutive_cover hs

theorem C20_min (x : Int) (l : List Int) (hs : (x :: l).Pairwise (· < ·)) : ∀ c ∈ x :: l, x ≤ c :=
  (Cover.head?_rel Int.le_refl (hs.imp Int.le_of_lt) rfl).2

theorem C20_max (l : List Int) (hne : l ≠ []) (hs : l.Pairwise (· < ·)) : ∀ c ∈ l, c ≤ l.getLast hne :=
  (Cover.getLast?_rel Int.le_refl (hs.imp Int.le_of_lt) (List.getLast?_eq_some_getLast hne)).2

/-- `hno` (no defined atom is in `T`: the intended use) is not needed by the proof -/
theorem C20_rules_conservative {α : Type} (P : HT.Prog α) (D : HT.RDefs α) (hP : ∀ r, P r → HT.Indep D.A r)
    (T : HT.Interp α) (hT : HT.Stable P T) (hno : ∀ a, D.A a → ¬ T a) :
    HT.Stable (HT.Union P D.prog) (HT.rext D T) :=
  HT.rdef_ext_sound D hP hT


theorem C20_order_spec_next (l : List Int) (a b : Int) :
    (a, b) ∈ (orderSpec l).2.2 ↔ a ∈ l ∧ b ∈ l ∧ a < b ∧ ∀ c ∈ l, ¬ (a < c ∧ c < b) := by
  simp only [orderSpec]
  rw [Cover.consecutive_cover (sorted_sortInts l)]
  simp only [mem_sortInts]

theorem C20_order_spec_min (l : List Int) (m : Int) (h : (orderSpec l).1 = some m) : m ∈ l ∧ ∀ c ∈ l, m ≤ c := by
  simpa only [mem_sortInts] using Cover.head?_rel Int.le_refl ((sorted_sortInts l).imp Int.le_of_lt) h

theorem C20_order_spec_max (l : List Int) (m : Int) (h : (orderSpec l).2.1 = some m) : m ∈ l ∧ ∀ c ∈ l, c ≤ m := by
  simpa only [mem_sortInts] using Cover.getLast?_rel Int.le_refl ((sorted_sortInts l).imp Int.le_of_lt) h

/-- every rule answered by any request of the model of `DomainPredicates` (`create_domain`,
`create_next_pred_for_annotated_pred`, `create_chain_pred_for_annotated_pred`; tied to `dependency.py` by
`corr_dependency.py`), in any state, has a plain positive atom head -/
theorem C20_generated_rules_plain (st st' : Dep.DomState) (r : Dep.Req) (rs : List Stm)
    (h : Dep.runReq st r = (.ok rs, st')) : rs.all Proofs.C20heads.plainRule = true :=
  Proofs.C20heads.runReq_plain st r rs st' h

example : orderSpec [5, 1, 3, 3, -2] = (some (-2), some 5, [(-2, 1), (1, 3), (3, 5)]) := by decide +kernel

open Proofs.C20dom in
/-- `coveredCheck` for the map `m` (predicate ↦ domain predicate) says: every plain rule and every choice element that can
derive an atom of a mapped predicate has its domain rule, whose literals are literals of the source rule unchanged or
domain versions of its positive literals.  `DnegT`: double negation is evaluated in the total interpretation (its field
`agg`, for aggregate literals, is not needed by the proof).
Domain rules that replace a NEGATED literal or a condition by its domain version (finding D6) fail the check. -/
theorem C20_domain_overapproximates (P : Sem.Params) (hp : Sem.AggPersistent P) (hdn : DnegT P)
    (m : List ((String × Nat) × String)) (prg : Prog) (hc : coveredCheck m prg = true) (T : Sem.Interp)
    (hT : Sem.Stable (Sem.stdParams P) prg T) :
    ∀ a d, T a → mapOf m a.name a.args.length = some d → T ⟨d, a.args⟩ :=
  dom_overapprox hp hdn (coveredCheck_sound hc) hT

/-! the choice program `{out(X)} :- d(X).  p(X) :- d(X), out(X).` with the domain rules the pass generates -/
namespace C20ex
open Proofs.C20dom Sem
def atomL (n : String) (vs : List String) : BLit := .lit (.pos, .sym (.fn n (vs.map Term.var) false))
def headL (n : String) (vs : List String) : Head := .lit (.pos, .sym (.fn n (vs.map Term.var) false))
def prg : Prog :=
  [ .rule 1 1 (.agg none [((.pos, .sym (.fn "out" [.var "X"] false)), [])] none) [atomL "d" ["X"]],
    .rule 2 1 (headL "p" ["X"]) [atomL "d" ["X"], atomL "out" ["X"]],
    .rule 1 1 (headL "__dom_out" ["X"]) [atomL "d" ["X"]],
    .rule 1 1 (headL "__dom_p" ["X"]) [atomL "d" ["X"], atomL "__dom_out" ["X"]] ]
def m : List ((String × Nat) × String) := [(("out", 1), "__dom_out"), (("p", 1), "__dom_p")]
theorem check : coveredCheck m prg = true := by
  simp only [ngo_eval, coveredCheck, ruleCoveredCheck, hasDomRule, domLitCheck, globalsOf, posAtom, prg, headL, atomL]
  decide +kernel
example (P : Params) (hp : AggPersistent P) (hdn : DnegT P) (T : Interp) (hT : Stable (stdParams P) prg T) (c : NgoVerif.Sym)
    (h : T ⟨"p", [c]⟩) : T ⟨"__dom_p", [c]⟩ :=
  C20_domain_overapproximates P hp hdn m prg check T hT ⟨"p", [c]⟩ "__dom_p" h (by simp [mapOf, m])
end C20ex

end NgoVerif
