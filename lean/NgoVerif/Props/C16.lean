import NgoVerif.Proofs.C16stm
import NgoVerif.Proofs.C16heads
import NgoVerif.Generated.Tables
import NgoVerif.Proofs.Eval
import NgoVerif.Model.Projection
import NgoVerif.Meta.Fold
import NgoVerif.Props.C07
import NgoVerif.Proofs.C16sem
import NgoVerif.Proofs.Except
/-!
# C16 — projection: a split rule derives exactly what the unsplit rule derived

* **semantic schema** (ground level): introducing fresh atoms by definitions whose bodies do not mention them, and
  folding those bodies inside other rules, keeps the stable models one-to-one (`C16_extension_sound`,
  `C16_extension_complete`, `C16_fold` = M3, M3 converse, M3f);
* **decision kernel of the model of `projection.py`**: whenever `good_split` accepts, the moved part binds all its
  variables (the auxiliary rule is safe by ngo's analysis), the remaining rule is safe given the interface variables,
  the interface is exactly `globals(new) ∩ (vars(rest) ∪ globals(head))`, no variable that is global in the rule is
  local inside the moved part, the rest keeps a positive atom, and aggregates are never on both sides
  (`C16_good_split_sound`); the emitted rules have the schema's shape with a fresh auxiliary predicate
  (`C16_split_shape`);
* **from syntax to stable models**: for the ground instances of `head :- body.` under one set of global variables, the
  condition `Cond` (syntactic: the two parts cover the body, every variable of the moved part that also occurs in the
  rest or in the head is passed through the auxiliary atom, the auxiliary name is fresh; and what is asked of the head
  semantics and the aggregates) gives the schema's side conditions (`Proofs/C16sem`), hence `C16_split_sound`,
  `C16_split_complete`; for typed programs, every statement under its own global variables and the standard head
  semantics, the same from the executable `splitCheck` / `ctxCheck`, which the driver evaluates on every split the real
  pass performs (`C16_check_sound`, `C16_split_sound_prog`, `C16_split_complete_prog`);
* left to the oracle (clingo on the real code: `unsafe` rejection, answer sets one-to-one): that ngo's binding analysis
  agrees with gringo's safety, and that a split `good_split` accepts passes `splitCheck` (no theorem links the two).
-/
namespace NgoVerif

theorem C16_extension_sound {α : Type} (P : HT.Prog α) (D : HT.Defs α) (hP : ∀ r, P r → HT.Indep D.A r)
    (T : HT.Interp α) (hT : HT.Stable P T) : HT.Stable (HT.Union P D.rules) (HT.ext D T) :=
  HT.def_ext_sound D hP hT

theorem C16_extension_complete {α : Type} (P : HT.Prog α) (D : HT.Defs α) (hP : ∀ r, P r → HT.Indep D.A r)
    (hpers : ∀ a H T, HT.Sub H T → D.dfn a H T → D.dfn a T T)
    (T' : HT.Interp α) (hT' : HT.Stable (HT.Union P D.rules) T') :
    ∃ T, HT.Stable P T ∧ ∀ a, T' a ↔ HT.ext D T a :=
  ⟨_, HT.def_ext_complete D hP hpers hT'⟩

/-- M3f.  With the two theorems above: `{aux(t̄) :- N.  h :- R, aux(t̄).}` is a conservative, one-to-one extension of
`h :- N, R.`  (`hpers` is not needed by the proof.) -/
theorem C16_fold {α : Type} (P Pf : HT.Prog α) (D : HT.Defs α) (hP : ∀ r, P r → HT.Indep D.A r)
    (hpers : ∀ a H T, HT.Sub H T → D.dfn a H T → D.dfn a T T)
    (hF : HT.Folding D P Pf) (T' : HT.Interp α) :
    HT.Stable (HT.Union P D.rules) T' ↔ HT.Stable (HT.Union Pf D.rules) T' :=
  HT.fold_stable hP hF T'

theorem C16_good_split_sound (new rest : List BLit) (head : Head) (body : List BLit) (t : List String)
    (h : goodSplit new rest head body = .ok (some t)) :
    ∃ gNew gHead globalOld bNew bRest,
      globalVarsInsideBody new = .ok gNew ∧ globalVarsInsideHead head = .ok gHead ∧
      globalVarsInsideBody body = .ok globalOld ∧
      bindingBody new = .ok (bNew, []) ∧
      bindingBody rest (some (vInter gNew (vUnion (varsOfNoAnon rest) gHead))) = .ok (bRest, []) ∧
      t = sortNames (vInter gNew (vUnion (varsOfNoAnon rest) gHead)) ∧
      vInter (vDiff (varsOfNoAnon new) gNew) globalOld = [] ∧
      rest.any BLit.isTruePredicate = true ∧
      (new.any BLit.hasBodyAgg && rest.any BLit.hasBodyAgg) = false := by
  simp only [goodSplit, Except.ite_none_eq_ok_some, Except.bind_eq_ok_iff, Prod.exists, Bool.not_eq_true,
    Bool.not_eq_false', List.isEmpty_iff] at h
  -- in the order of `goodSplit`'s statements; the `-` drop: the size test on `new`; after `hloc`, `gNew3` with its equation
  -- and the tests "the split shrinks the rule", "no literal of `rest` lies inside `new`"; after `hagg`, `gHead2` with its
  -- equation and the test `t.length ≥ gHead2.length`
  obtain ⟨-, bNew, unb, hbn, hunb, gNew, hgn, gHead, hgh, bRest, unbR, hbr, hunbR, gNew2, hgn2, globalOld, hgo, hloc, -, -, -, -,
    htrue, hagg, -, -, -, ht⟩ := h
  cases hgn.symm.trans hgn2
  subst hunb hunbR
  exact ⟨gNew, gHead, globalOld, bNew, bRest, hgn, hgh, hgo, hbn, hbr, (Option.some.inj (Except.ok.inj ht)).symm, hloc, htrue, hagg⟩

theorem C16_split_shape (un un' : UniqueNames) (line col : Nat) (head : Head) (body : List BLit)
    (cands : List (List BLit)) (out : List Stm)
    (h : projectLoop un line col head body cands = .ok (out, un')) :
    out = [.rule line col head body] ∨
    ∃ new vars aux, new ∈ cands ∧
      goodSplit new (body.filter fun x => !x.memAst new) head body = .ok (some vars) ∧
      un.newAux vars.length = some (aux, un') ∧ aux ∉ un.preds ∧
      out = [.rule 1 1 (.lit (.pos, .sym (.fn aux.name (vars.map Term.var) false))) new,
             .rule line col head ((body.filter fun x => !x.memAst new) ++
               [.lit (.pos, .sym (.fn aux.name (vars.map Term.var) false))])] :=
  (Proofs.C16heads.projectLoop_shape h).imp_right fun ⟨new, vars, aux, hn, hg, ha, ho⟩ =>
    ⟨new, vars, aux, hn, hg, ha, (Proofs.C07.newAux_fresh ha).1, ho⟩

/-- aggregates are never torn apart: an aggregate literal is one body literal -/
theorem C16_aggregates_whole (new rest : List BLit) (head : Head) (body : List BLit) (t : List String)
    (h : goodSplit new rest head body = .ok (some t)) :
    ¬ (new.any BLit.hasBodyAgg = true ∧ rest.any BLit.hasBodyAgg = true) := by
  obtain ⟨_, _, _, _, _, _, _, _, _, _, _, _, _, hagg⟩ := C16_good_split_sound new rest head body t h
  intro ⟨h1, h2⟩
  simp [h1, h2] at hagg


/- No example for `C16_good_split_sound`: the kernel cannot evaluate `goodSplit` by `decide` (the binding fixpoints recurse
on fuel over strings).  The correspondence run reports how many `good_split` calls of the real code returned a split and
were reproduced by the model (evidence key `good_split:split`). -/


open Proofs.C16sem in
/-- `head :- body.` (body = `new` ∪ `rest`) versus `aux(V̄) :- new.` + `head :- rest, aux(V̄).` in any ground context `P0` that
does not mention the auxiliary predicate; `extend` adds exactly the auxiliary atoms whose moved part holds.  What `Cond`
asks of the semantic parameters: a plain atom head holds iff its atom is in `H`, the head depends only on its variables
and not on aux atoms, aggregates are persistent - the last is used by `C16_split_complete` only.  `G` (which variables
are global) is the same for the three rules: no variable changes its scope — what `good_split` checks with
`local_new ∩ global_old = ∅`. -/
theorem C16_split_sound (P : Sem.PParams) (G : String → Prop) (S : Syn) (P0 : HT.Prog Sem.GAtom) (hc : Cond P G S)
    (hP0 : ∀ r, P0 r → HT.Indep (splitData P G S P0).A r) (T : Sem.Interp)
    (hT : HT.Stable (HT.Union P0 (instances P G S.head S.body)) T) :
    HT.Stable (splitProg P G S P0) (extend P G S T) :=
  split_sound P G S P0 hc hP0 T hT

open Proofs.C16sem in
theorem C16_split_complete (P : Sem.PParams) (G : String → Prop) (S : Syn) (P0 : HT.Prog Sem.GAtom) (hc : Cond P G S)
    (hP0 : ∀ r, P0 r → HT.Indep (splitData P G S P0).A r) (T' : Sem.Interp)
    (hT' : HT.Stable (splitProg P G S P0) T') :
    ∃ T, HT.Stable (HT.Union P0 (instances P G S.head S.body)) T ∧ ∀ a, T' a ↔ extend P G S T a :=
  split_complete P G S P0 hc hP0 T' hT'

/-- the ground-level schema with its side condition `Glue` (environments can be re-assembled across the interface), of
which the two theorems above are the syntactic instance -/
theorem C16_schema_sound {α E K : Type} (S : HT.SplitData α E K) (h : S.WF) (hg : S.Glue) (T : HT.Interp α)
    (hT : HT.Stable S.orig T) : HT.Stable (HT.Union S.folded (S.defs h).rules) (HT.ext (S.defs h) T) :=
  S.split_sound h hg T hT

/-- the rows of `C01_wiring` for this pass -/
theorem C16_wiring :
    Tables.API_ARGS.lookup "projection" = some (["input_", "input_predicates"], "input_", "input_") ∧
    Tables.CTOR_PARAMS.lookup "projection" = some ["prg", "input_predicates"] := by decide +kernel

/-- the model of `ProjectionTranslator.execute` keeps every head and adds only plain-headed auxiliary rules (`FromStm`) -/
theorem C16_heads_kept (prg : Prog) (inputs : List Pred) (out : Prog) (h : projection prg inputs = .ok out) :
    ∀ s ∈ out, ∃ o ∈ prg, Proofs.C16heads.FromStm o s :=
  Proofs.C16heads.executeRest_heads h

/-! `Proofs/C16stm.lean`: `pre ++ [head :- body.] ++ post` and `pre ++ [aux(vs) :- new. ; head :- rest, aux(vs).] ++ post`, every statement under
its OWN global variables (`Sem/Coincidence.lean` bridges the three different sets), standard head semantics, any parameter
choice; that aggregates are persistent is used by completeness only (soundness takes the hypothesis because
`C16sem.Cond` bundles it).  `splitCheck` / `ctxCheck` are what the driver evaluates on every split the real pass
performs (anonymous variables renamed apart by the harness). -/
open Proofs.C16stm in
theorem C16_check_sound (S : Split) (pre post : Prog) (h1 : splitCheck S = true) (h2 : ctxCheck S pre post = true) :
    Ok S ∧ CtxOk S pre post :=
  ⟨splitCheck_sound h1, ctxCheck_sound h2⟩

open Proofs.C16stm in
theorem C16_split_sound_prog (P : Sem.Params) (hp : Sem.AggPersistent P) (S : Split) (pre post : Prog)
    (h1 : splitCheck S = true) (h2 : ctxCheck S pre post = true) (T : Sem.Interp)
    (hT : Sem.Stable (Sem.stdParams P) (pre ++ S.orig :: post) T) :
    Sem.Stable (Sem.stdParams P) (pre ++ S.auxRule :: S.updRule :: post)
      (Proofs.C16sem.extend (Sem.stdParams P) (fun v => v ∈ S.G0) S.syn T) :=
  split_sound_prog P hp S (splitCheck_sound h1) pre post (ctxCheck_sound h2) T hT

open Proofs.C16stm in
theorem C16_split_complete_prog (P : Sem.Params) (hp : Sem.AggPersistent P) (S : Split) (pre post : Prog)
    (h1 : splitCheck S = true) (h2 : ctxCheck S pre post = true) (T' : Sem.Interp)
    (hT' : Sem.Stable (Sem.stdParams P) (pre ++ S.auxRule :: S.updRule :: post) T') :
    ∃ T, Sem.Stable (Sem.stdParams P) (pre ++ S.orig :: post) T ∧
      ∀ a, T' a ↔ Proofs.C16sem.extend (Sem.stdParams P) (fun v => v ∈ S.G0) S.syn T a :=
  split_complete_prog P hp S (splitCheck_sound h1) pre post (ctxCheck_sound h2) T' hT'

/-! `h(X) :- p(X), q(X,Y), r(Y).` split into `__aux_1(X) :- q(X,Y), r(Y).` and `h(X) :- p(X), __aux_1(X).` next to a fact -/
namespace C16ex
open Proofs.C16stm Sem
def atomL (n : String) (vs : List String) : BLit := .lit (.pos, .sym (.fn n (vs.map Term.var) false))
def S : Split :=
  { line := 1, col := 1, head := .lit (.pos, .sym (.fn "h" [.var "X"] false)),
    body := [atomL "p" ["X"], atomL "q" ["X", "Y"], atomL "r" ["Y"]],
    new := [atomL "q" ["X", "Y"], atomL "r" ["Y"]], rest := [atomL "p" ["X"]], vs := ["X"], auxName := "__aux_1" }
def ctx : Prog := [.rule 2 1 (.lit (.pos, .sym (.fn "p" [.sym (.num 1)] false))) []]
theorem check : splitCheck S = true ∧ ctxCheck S ctx [] = true := by
  simp only [ngo_eval, splitCheck, Split.G0, Split.Ga, Split.Gu, Split.auxB, Proofs.C16sem.auxLit, Proofs.C16sem.auxAtomTerm, S, atomL]
  decide +kernel
example (P : Params) (hp : AggPersistent P) (T : Interp) (hT : Stable (stdParams P) (ctx ++ S.orig :: []) T) :
    Stable (stdParams P) (ctx ++ S.auxRule :: S.updRule :: []) (Proofs.C16sem.extend (stdParams P) (fun v => v ∈ S.G0) S.syn T) :=
  C16_split_sound_prog P hp S ctx [] check.1 check.2 T hT
end C16ex

end NgoVerif
