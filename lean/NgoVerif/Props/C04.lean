import NgoVerif.Props.C16
import NgoVerif.Props.C07
/-!
# C04 — the result is a valid, safe clingo program and its printed form is faithful

Provable here (about the executable models, tied to the code by correspondence):
* the rules `projection` creates are safe *by ngo's own binding analysis* (`C04_projection_safe`, from
  `C16_good_split_sound`) and the analysis is a total function (no `partial`, fuel justified in `Model/Binding.lean`);
* fresh variables stay lexically variables: `make_unique` appends decimal digits to a variable token
  (`C04_make_unique_lexical`), so a node built as `Variable` prints as a variable;
* invented predicate names are fresh (C07).
Observed on the real code only (runtime behaviour of clingo): `ProgramBuilder.add`, grounding without safety errors,
`str(parse(str(s))) = str(s)`, equal answer sets through AST and text.  Whether ngo's binding analysis agrees with
gringo's safety is exactly what that observation decides.
-/
namespace NgoVerif

def isVarTok : List Char → Bool
  | [] => false
  | c :: cs => if c == '_' then isVarTok cs else c.isUpper

theorem isVarTok_append {l : List Char} (t : List Char) (h : isVarTok l = true) : isVarTok (l ++ t) = true := by
  fun_induction isVarTok l with
  | case1 => cases h
  | case2 c cs hc ih => rw [List.cons_append, isVarTok, if_pos hc]; exact ih h
  | case3 c cs hc => rw [List.cons_append, isVarTok, if_neg hc]; exact h

theorem C04_make_unique_lexical (u u' : UniqueVars) (v r : String) (hv : isVarTok v.toList = true)
    (h : u.makeUnique v = some (r, u')) : isVarTok r.toList = true := by
  by_cases hu : v = "_"
  · cases (hu ▸ h).symm.trans (Proofs.C07.makeUnique_anon u)
    exact hu ▸ hv
  · obtain ⟨t, ht, _⟩ := Proofs.C07.makeUnique_spec u hu
    cases h.symm.trans ht
    rw [String.toList_append]
    exact isVarTok_append _ hv

/-- the moved part leaves no variable unbound, and the remaining part leaves none unbound once the interface variables
are bound by the auxiliary atom -/
theorem C04_projection_safe (new rest : List BLit) (head : Head) (body : List BLit) (t : List String)
    (h : goodSplit new rest head body = .ok (some t)) :
    (∃ b, bindingBody new = .ok (b, [])) ∧
    (∃ g gh b, globalVarsInsideBody new = .ok g ∧ globalVarsInsideHead head = .ok gh ∧
      bindingBody rest (some (vInter g (vUnion (varsOfNoAnon rest) gh))) = .ok (b, [])) := by
  obtain ⟨gNew, gHead, _, bNew, bRest, h1, h2, _, h4, h5, _⟩ := C16_good_split_sound new rest head body t h
  exact ⟨⟨bNew, h4⟩, ⟨gNew, gHead, bRest, h1, h2, h5⟩⟩

theorem C04_fresh_predicates (prg : Prog) (inputs : List Pred) (ops : List NameOp) :
    ∃ ps s', (UniqueNames.init prg inputs).run ops = some (ps, s') ∧ ps.Nodup ∧
      ∀ p ∈ ps, p ∉ inputs ∧ p ∉ prg.allPreds ∧ p ∉ showSigs prg :=
  C07_fresh_pred prg inputs ops

end NgoVerif
