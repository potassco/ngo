import NgoVerif.Spec.C18
import NgoVerif.Proofs.C18
/-!
# C18 — `auto_detect_input` / `auto_detect_output` against the specification of `Spec/C18.lean`

For programs without pooled atoms, `auto_detect_input` reports every predicate that occurs in a rule or objective and is
never a positive head atom, and none that has a defining statement whose body does not mention it; `auto_detect_output`
reports exactly the shown predicates, duplicate free.
-/
namespace NgoVerif
open Spec

/-- `_partial`: the collectors look only at atoms whose symbol is a `Function`; a pooled atom `d(1;2)` is missed
(`C18_input_complete_counterexample`, defect D9). -/
theorem C18_input_complete_partial (prg : Prog) (p : Pred)
    (hplain : ∀ s ∈ prg, PlainAtoms s)
    (hocc : ∃ s ∈ prg, Occurs s p) (hnh : ∀ s ∈ prg, ¬ PosHead s p) :
    p ∈ autoDetectInput prg :=
  (Proofs.C18.input_exact prg p hplain).2 ⟨hocc, .inl hnh⟩

/-- the full statement (without the pool hypothesis) is false of the model, hence — by the correspondence — of
the code: `:- d(1;2), e.  e :- not f.` -/
theorem C18_input_complete_counterexample :
    ∃ (prg : Prog) (p : Pred), (∃ s ∈ prg, Occurs s p) ∧ (∀ s ∈ prg, ¬ PosHead s p) ∧ p ∉ autoDetectInput prg :=
  Proofs.C18.input_complete_counterexample

theorem C18_input_excludes (prg : Prog) (p : Pred)
    (hplain : ∀ s ∈ prg, PlainAtoms s)
    (h : ∃ s ∈ prg, PosHead s p ∧ ¬ BodyOccurs s p) :
    p ∉ autoDetectInput prg :=
  Proofs.C18.input_excludes prg p hplain h

/-- `hplain`: `PlainAtoms` for the `#show` conditions -/
theorem C18_output_exact (prg : Prog) (p : Pred)
    (hplain : ∀ s ∈ prg, ∀ t b, s = Stm.showTerm t b → ∀ x ∈ bodyAtoms b, x.2.isFn = true) :
    p ∈ autoDetectOutput prg ↔ Shown prg p :=
  Proofs.C18.output_exact prg p hplain

theorem C18_output_nodup (prg : Prog) : (autoDetectOutput prg).Nodup :=
  Proofs.C18.output_nodup prg

/-- `a :- not b(X).`: `b/1` occurs and is no head (reported), `a/0` has a defining rule whose body does not mention it (not
reported) -/
example : autoDetectInput
    [Stm.rule 1 1 (.lit (.pos, .sym (.fn "a" [] false))) [.lit (.neg, .sym (.fn "b" [.var "X"] false))]]
    = [⟨"b", 1⟩] := by decide +kernel

end NgoVerif
