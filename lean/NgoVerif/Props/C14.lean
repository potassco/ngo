import NgoVerif.Generated.Tables
import NgoVerif.Meta.Algebra
import NgoVerif.Proofs.C14poly
/-!
# C14 — math: simplified comparisons and aggregates are exact over the integers

What is provable without sympy: a variable with coefficient `a` can be eliminated exactly when `a` divides the rest
(`C14_eliminate`), always for `a = ±1` (`C14_eliminate_unit`), not in general (`C14_eliminate_counterexample` = D5:
`X = Y*3` dropped); relations are moved across a guard with `rhs2lhs`/`negate` (`C05_rhs2lhs_table`,
`C05_negate_table` in `Props/C05.lean`); merging aggregates is sum-of-sums with `__agg(i)` tags keeping tuples distinct
(`C14_merge`).
The polynomial normal form the model hands to sympy and reads back from it is exact (`C14_poly_ops_exact`,
`C14_tree_read_exact`, `C14_equality_as_zero`: `Proofs/C14poly.lean`, for every integer assignment of the symbols).
Nothing is proved about what sympy's `groebner`/`solve` return: they are external parameters; exactness of the whole
pass is validated by the oracle with integers of both signs and 0.
-/
namespace NgoVerif

theorem C14_eliminate (a t : Int) : (∃ v : Int, a * v + t = 0) ↔ a ∣ t := Alg.eliminate_iff_dvd a t

theorem C14_eliminate_unit (t : Int) : (∃ v : Int, 1 * v + t = 0) ∧ (∃ v : Int, (-1) * v + t = 0) :=
  Alg.eliminate_unit t

theorem C14_eliminate_counterexample : ¬ ∃ y : Int, (4 : Int) = y * 3 := Alg.eliminate_counterexample

theorem C14_merge {G T : Type} [DecidableEq T] (groups : Finset G) (elems : G → Finset T) (w : T → Int)
    (hdisj : ∀ g ∈ groups, ∀ g' ∈ groups, g ≠ g' → Disjoint (elems g) (elems g')) :
    ∑ t ∈ groups.biUnion elems, w t = ∑ g ∈ groups, ∑ t ∈ elems g, w t :=
  Finset.sum_biUnion hdisj


open MathSimp in
/-- the polynomial arithmetic of `Model/MathSimpPoly.lean`, the mirror of `sympy.expand`.  No assumption on the lists
(sortedness, non-zero coefficients). -/
theorem C14_poly_ops_exact (ρ : Asg) (p q : Poly) (n : Nat) (c : Int) (s : String) :
    evalPoly ρ (p.add q) = evalPoly ρ p + evalPoly ρ q ∧ evalPoly ρ (p.sub q) = evalPoly ρ p - evalPoly ρ q ∧
    evalPoly ρ (p.mul q) = evalPoly ρ p * evalPoly ρ q ∧ evalPoly ρ (p.pow n) = evalPoly ρ p ^ n ∧
    evalPoly ρ p.neg = - evalPoly ρ p ∧ evalPoly ρ (Poly.const c) = c ∧ evalPoly ρ (Poly.sym s) = ρ s :=
  ⟨evalPoly_add ρ p q, evalPoly_sub ρ p q, evalPoly_mul ρ p q, evalPoly_pow ρ p n, evalPoly_neg ρ p, evalPoly_const ρ c,
    evalPoly_sym ρ s⟩

open MathSimp in
theorem C14_tree_read_exact (ρ : Asg) (t : Tree) (p : Poly) (h : t.toPoly? = some p) :
    Tree.eval? ρ t = some (evalPoly ρ p) :=
  Tree.toPoly?_exact ρ t p h

open MathSimp in
/-- `_to_equality` for `=`: the comparison `lhs = rhs` holds iff the polynomial `rhs - lhs` the pass hands to sympy vanishes -/
theorem C14_equality_as_zero (ρ : Asg) (lhs rhs : Poly) :
    evalPoly ρ (rhs.sub lhs) = 0 ↔ evalPoly ρ lhs = evalPoly ρ rhs := by
  rw [evalPoly_sub, Int.sub_eq_zero, eq_comm]

open MathSimp in
/-- `_to_equality` for the other operators: with the dummy symbol `aux` standing for the difference, `lhs - rhs - aux = 0`
pins `aux` to `lhs - rhs`; the recorded relation `aux op 0` is then the relation between the two sides -/
theorem C14_relation_as_zero (ρ : Asg) (lhs rhs : Poly) (aux : String) :
    evalPoly ρ ((lhs.sub rhs).sub (Poly.sym aux)) = 0 ↔ ρ aux = evalPoly ρ lhs - evalPoly ρ rhs := by
  rw [evalPoly_sub, evalPoly_sub, evalPoly_sym, Int.sub_eq_zero, eq_comm]

open MathSimp in
example (ρ : Asg) :
    evalPoly ρ (((Poly.sym "X").add (Poly.const 1)).mul ((Poly.sym "X").sub (Poly.const 1))) = ρ "X" ^ 2 - 1 := by
  simp only [evalPoly_mul, evalPoly_add, evalPoly_sub, evalPoly_sym, evalPoly_const]
  ring

open MathSimp in
example : (Tree.add [.mul [.int 2, .sym "X"], .pow (.sym "Y") (.int 2) true]).toPoly?.isSome = true := by decide +kernel

/-- the rows of `C01_wiring` for this pass -/
theorem C14_wiring :
    Tables.API_ARGS.lookup "math" = some (["input_"], "input_", "input_") ∧
    Tables.CTOR_PARAMS.lookup "math" = some ["prg"] := by decide +kernel

end NgoVerif
