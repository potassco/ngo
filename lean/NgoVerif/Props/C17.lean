import NgoVerif.Proofs.C18
import NgoVerif.Proofs.C08fits
import NgoVerif.Proofs.C07
/-!
# C17 — optimize is pure: reproducible, history-independent, leaves its argument alone

Model functions are functions, so determinism of the model is vacuous and is **not** claimed as a result.  The
provable content is *order-insensitivity at the places where Python iterates hash-ordered containers*: for each
such site the model's result depends on the container only as a set.
* `auto_detect_input`: membership in the result is invariant under any reordering/duplication of the collected
  predicates (`C17_detect_input_perm`);
* `CleanupTranslator._superseeded`: the `for m in self.superseeds` search succeeds or fails independently of the
  iteration order (`C17_superseeds_order`, for error-free runs);
* `UniqueNames`: which name is handed out depends only on the *set* of known predicates (`C17_names_set`).
Hash seeds, `functools.cache` keyed by object identity, aliasing through `AST.update()` and in-place list edits are
runtime behaviour no Lean model exhibits; they are observed on the real code (subprocesses under different
PYTHONHASHSEEDs, repeated calls in one process, argument snapshots before/after the call).
-/
namespace NgoVerif
open Cleanup

theorem C17_detect_input_perm (l l' : List Pred) (h : ∀ x, x ∈ l ↔ x ∈ l') (x : Pred) :
    x ∈ sortDedup l ↔ x ∈ sortDedup l' := by
  rw [Proofs.C18.mem_sortDedup, Proofs.C18.mem_sortDedup, h]

theorem C17_superseeds_order {lp rp : Pred} {s : Sign} {la ra : List Term} (ms ms' : List Mapping)
    (hset : ∀ m, m ∈ ms ↔ m ∈ ms')
    (hok : ∀ m ∈ ms, ∃ b, fitsMapping m lp rp s la ra = .ok b) :
    anyFits lp rp s la ra ms = .ok true ↔ anyFits lp rp s la ra ms' = .ok true :=
  ⟨anyFits_mono (fun m => (hset m).mp) fun m hm => hok m ((hset m).mpr hm), anyFits_mono (fun m => (hset m).mpr) hok⟩

theorem C17_names_set (mk : Nat → Pred) (known known' : List Pred) (h : ∀ p, p ∈ known ↔ p ∈ known')
    (fuel k : Nat) : findFree mk known fuel k = findFree mk known' fuel k := by
  rw [Proofs.C07.findFree_eq, Proofs.C07.findFree_eq]
  exact Proofs.C07.firstFree_congr (fun j => h (mk j)) fuel k

end NgoVerif
