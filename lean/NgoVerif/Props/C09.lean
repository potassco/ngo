import NgoVerif.Proofs.C10multi
import NgoVerif.Generated.Tables
import NgoVerif.Proofs.Eval
import NgoVerif.Meta.Basic
import NgoVerif.Model.Unused
import NgoVerif.Proofs.C09link
/-!
# C09 — unused removes or shrinks only what no output, constraint or objective can see

Deleting the plain rules of a predicate that nothing observes is definitional extension read backwards: the program
with those rules is a one-to-one conservative extension of the program without them (`C09_remove_unused`), hence the
answer sets agree on every predicate that remains (`C09_observation`) — in particular on IN ∪ OUT — and
satisfiability and costs (objectives never mention the removed atoms) are unchanged.
* ground schema: `C09_remove_unused`, `C09_remove_unused_conv`, `C09_observation`;
* decision kernel of `Model/Unused.lean` (usage scan, position projection and copy-rule unfolding, tied to `unused.py`
  by correspondence): interface and shown predicates are used at every position, atoms and rules of interface predicates
  stay, only plain rules are removed (`C09_interface_positions_used` … `C09_only_plain_rules_removed`);
* typed programs, rule removal: the model's decision `removable … = true` gives the syntactic side condition `Unused`
  (`C09_decision_implies_unused`, for heads of the shape `stmOk`), as does the executable `unusedCheck` the driver
  evaluates on the real removals (`C09_check_sound`); `Unused` gives the one-to-one correspondence of answer sets, equal
  cost tuples and equal displayed terms (`C09_removal_sound`, `_complete`, `_costs`, `_shown`); unfolding a copy rule at
  positive body literals keeps the stable models while the rule is in the program (`C09_copy_unfold_positive`, the
  folding theorem of `duplication` read backwards: hence the import of `Proofs/C10multi`);
* left to the clingo oracle (IN ∪ OUT with costs): position projection, and copy-rule unfolding at other uses.
-/
namespace NgoVerif

/-- `D`: the rules that will be deleted -/
theorem C09_remove_unused {α : Type} (P : HT.Prog α) (D : HT.Defs α) (hP : ∀ r, P r → HT.Indep D.A r)
    (hpers : ∀ a H T, HT.Sub H T → D.dfn a H T → D.dfn a T T)
    (T' : HT.Interp α) (hT' : HT.Stable (HT.Union P D.rules) T') :
    ∃ T, HT.Stable P T ∧ ∀ a, T' a ↔ HT.ext D T a :=
  ⟨_, HT.def_ext_complete D hP hpers hT'⟩

theorem C09_remove_unused_conv {α : Type} (P : HT.Prog α) (D : HT.Defs α) (hP : ∀ r, P r → HT.Indep D.A r)
    (T : HT.Interp α) (hT : HT.Stable P T) : HT.Stable (HT.Union P D.rules) (HT.ext D T) :=
  HT.def_ext_sound D hP hT

/-- `hno` is not needed by the proof -/
theorem C09_observation {α : Type} (D : HT.Defs α) (T : HT.Interp α) (hno : ∀ a, D.A a → ¬ T a) :
    HT.AgreeOff D.A T (HT.ext D T) :=
  HT.agreeOff_glue D.A T _


open Unused

/-- the event that `analyze_usage` records for a predicate of the interface, and for `#show p/n.`, uses the predicate
at every position -/
theorem posUsed_of_fullEvent {ev : List Event} {p : Pred} (h : fullEvent p ∈ ev) {i : Nat} (hi : i < p.arity) :
    posUsed ev p i = true :=
  List.any_eq_true.mpr ⟨_, h, by
    simp only [fullEvent, beq_self_eq_true, Bool.true_and, List.contains_iff_mem, List.mem_range, hi]⟩

theorem isUsed_of_fullEvent {ev : List Event} {p : Pred} (h : fullEvent p ∈ ev) : isUsed ev p = true :=
  List.any_eq_true.mpr ⟨_, h, beq_self_eq_true _⟩

theorem fullEvent_mem_of_interface (prg : Prog) {inputs outputs : List Pred} {p : Pred} (hp : p ∈ inputs ∨ p ∈ outputs) :
    fullEvent p ∈ analyzeUsage prg inputs outputs :=
  List.mem_append_right _ (List.mem_map.mpr ⟨p, List.mem_append.mpr hp, rfl⟩)

theorem C09_interface_positions_used (prg : Prog) (inputs outputs : List Pred) (p : Pred)
    (hp : p ∈ inputs ∨ p ∈ outputs) (i : Nat) (hi : i < p.arity) :
    posUsed (analyzeUsage prg inputs outputs) p i = true :=
  posUsed_of_fullEvent (fullEvent_mem_of_interface prg hp) hi

theorem C09_shown_positions_used (prg : Prog) (inputs outputs : List Pred) (n : String) (a : Nat) (pos : Bool)
    (hs : Stm.showSig n a pos ∈ prg) (i : Nat) (hi : i < a) :
    posUsed (analyzeUsage prg inputs outputs) ⟨n, a⟩ i = true :=
  posUsed_of_fullEvent (List.mem_append_left _ (List.mem_flatMap.mpr ⟨_, hs, List.mem_singleton.mpr rfl⟩)) hi

theorem keepUsed_all (ev : List Event) (p : Pred) :
    ∀ (as : List Term) (i : Nat), (∀ j, i ≤ j → j < i + as.length → posUsed ev p j = true) → keepUsed ev p i as = as
  | [], _, _ => rfl
  | a :: as, i, h => by
    simp only [keepUsed, h i (Nat.le_refl _) (by simp), if_true]
    rw [keepUsed_all ev p as (i + 1) (fun j hj hj' => h j (by omega) (by simp only [List.length_cons]; omega))]

/-- `project_unused` leaves atoms over interface predicates alone -/
theorem C09_interface_atoms_kept (prg : Prog) (inputs outputs : List Pred) (memo : List ((Pred × Pred) × String))
    (name : String) (args : List Term) (ext : Bool)
    (hp : (⟨name, args.length⟩ : Pred) ∈ inputs ∨ (⟨name, args.length⟩ : Pred) ∈ outputs) :
    transformSym (analyzeUsage prg inputs outputs) memo (.fn name args ext) = .fn name args ext := by
  have hk : keepUsed (analyzeUsage prg inputs outputs) ⟨name, args.length⟩ 0 args = args :=
    keepUsed_all _ _ args 0 (fun j _ hj => C09_interface_positions_used prg inputs outputs _ hp j (by simpa using hj))
  simp [transformSym, target?, hk]

theorem C09_interface_rules_kept (prg : Prog) (inputs outputs added : List Pred) (l c : Nat) (name : String)
    (args : List Term) (ext : Bool) (b : List BLit)
    (hp : (⟨name, args.length⟩ : Pred) ∈ inputs ∨ (⟨name, args.length⟩ : Pred) ∈ outputs) :
    removable (analyzeUsage prg inputs outputs) added (.rule l c (.lit (.pos, .sym (.fn name args ext))) b) = false := by
  simp [removable, isUsed_of_fullEvent (fullEvent_mem_of_interface prg hp)]

theorem C09_only_plain_rules_removed (ev : List Event) (added : List Pred) (s : Stm) (h : removable ev added s = true) :
    ∃ l c name args ext b, s = .rule l c (.lit (.pos, .sym (.fn name args ext))) b := by
  unfold removable at h
  split at h
  · rename_i l c name args ext b; exact ⟨l, c, name, args, ext, b, rfl⟩
  · cases h

/-! `Sem.stdParams P` is the here-and-there semantics of typed programs with the standard head semantics
(`Sem/Head.lean`), for *every* choice `P` of the arithmetic, comparison and aggregate parameters; `C09_removal_complete`
alone needs the aggregates persistent.  `C09sem.keep n k prg` is `prg` without the plain rules of `n/k` - what
`remove_unused` of the model returns when `n/k` is the only removable predicate; for several predicates the step is
iterated (`C09_unused_keep`). -/
open Proofs.C09link in
/-- `stmOk`: head literals have the shape the parser produces -/
theorem C09_decision_implies_unused (prg : Prog) (inputs outputs added : List Pred) (hok : ∀ s ∈ prg, stmOk s = true)
    (l c : Nat) (name : String) (args : List Term) (ext : Bool) (b : List BLit)
    (hrem : removable (analyzeUsage prg inputs outputs) added (.rule l c (.lit (.pos, .sym (.fn name args ext))) b) = true) :
    Proofs.C09sem.Unused name args.length prg :=
  removable_unused hok hrem

open Proofs.C09sem Proofs.C09link in
theorem C09_removal_complete (P : Sem.Params) (hp : Sem.AggPersistent P) (prg : Prog) (inputs outputs added : List Pred)
    (hok : ∀ s ∈ prg, stmOk s = true) (l c : Nat) (name : String) (args : List Term) (ext : Bool) (b : List BLit)
    (hrem : removable (analyzeUsage prg inputs outputs) added (.rule l c (.lit (.pos, .sym (.fn name args ext))) b) = true)
    (T' : Sem.Interp) (hT' : Sem.Stable (Sem.stdParams P) prg T') :
    ∃ T, Sem.Stable (Sem.stdParams P) (keep name args.length prg) T ∧
      (∀ a, T' a ↔ extend P name args.length prg T a) ∧
      (∀ a, ¬ Sem.named (Sem.predSig name args.length) a → (T a ↔ T' a)) :=
  unused_complete hp (removable_unused hok hrem) hT'

open Proofs.C09sem Proofs.C09link in
theorem C09_removal_sound (P : Sem.Params) (prg : Prog) (inputs outputs added : List Pred)
    (hok : ∀ s ∈ prg, stmOk s = true) (l c : Nat) (name : String) (args : List Term) (ext : Bool) (b : List BLit)
    (hrem : removable (analyzeUsage prg inputs outputs) added (.rule l c (.lit (.pos, .sym (.fn name args ext))) b) = true)
    (T : Sem.Interp) (hT : Sem.Stable (Sem.stdParams P) (keep name args.length prg) T) :
    Sem.Stable (Sem.stdParams P) prg (extend P name args.length prg T) :=
  unused_sound (removable_unused hok hrem) hT

open Proofs.C09sem in
theorem C09_removal_costs (P : Sem.Params) (n : Sem.Sig) (s : Stm) (hav : stmAvoids n s = true) (T T' : Sem.Interp)
    (hag : Sem.AgreeOffName n T T') (x : Sym × Sym × List Sym) :
    Sem.costTuples (Sem.stdParams P) T s x ↔ Sem.costTuples (Sem.stdParams P) T' s x :=
  unused_costs P n s hav T T' hag x

open Proofs.C09sem in
theorem C09_check_sound (n : String) (k : Nat) (prg : Prog) (h : unusedCheck n k prg = true) : Unused n k prg :=
  fun s hs => Bool.or_eq_true _ _ ▸ List.all_eq_true.mp h s hs

open Proofs.C09sem in
theorem C09_removal_shown (P : Sem.Params) (n : Sem.Sig) (s : Stm) (hav : stmAvoids n s = true) (T T' : Sem.Interp)
    (hag : Sem.AgreeOffName n T T') (x : Sym) : shownTerms P T s x ↔ shownTerms P T' s x :=
  unused_shown P n s hav T T' hag x

open Proofs.C09sem in
theorem C09_unused_keep (n m : String) (k j : Nat) (prg : Prog) (h : Unused n k prg) : Unused n k (keep m j prg) :=
  fun s hs => h s (List.mem_filter.mp hs).1

/-! the model's decision fires on `a(X) :- c(X).` (`c/1` input, `d/0` output), not on the output predicate's own rule -/
section Example
open Proofs.C09link
private def r1 : Stm := .rule 1 1 (.lit (.pos, .sym (.fn "a" [.var "X"] false))) [.lit (.pos, .sym (.fn "c" [.var "X"] false))]
private def r2 : Stm := .rule 2 1 (.lit (.pos, .sym (.fn "d" [] false))) [.lit (.neg, .sym (.fn "c" [.sym (.num 1)] false))]
example : removable (analyzeUsage [r1, r2] [⟨"c", 1⟩] [⟨"d", 0⟩]) [] r1 = true := by
  simp [removable, analyzeUsage, isUsed, r1, r2, stmEvents, bodyEvents, blitEvents, BLit.collect, BLit.terms, litTerms,
    Atom.terms, Term.collect, Term.isFn, fnEvent, headEvents, fullEvent]
example : removable (analyzeUsage [r1, r2] [⟨"c", 1⟩] [⟨"d", 0⟩]) [] r2 = false := by
  simp [removable, analyzeUsage, isUsed, r1, r2, stmEvents, bodyEvents, blitEvents, BLit.collect, BLit.terms, litTerms,
    Atom.terms, Term.collect, Term.isFn, fnEvent, headEvents, fullEvent]
example : ∀ s ∈ [r1, r2], stmOk s = true := by decide
end Example

/-- the rows of `C01_wiring` for this pass -/
theorem C09_wiring :
    Tables.API_ARGS.lookup "unused" = some (["input_", "input_predicates", "output_predicates"], "input_", "input_") ∧
    Tables.CTOR_PARAMS.lookup "unused" = some ["prg", "input_predicates", "output_predicates"] := by decide +kernel

open Proofs.C10multi in
/-- `remove_single_copies` replaces `a(σV̄)` by the body of the single rule `a(V̄) :- B.`: the same stable models while
that rule is still in the program; deleting it afterwards is `C09_removal_*`.  Uses under negation, in conditions and
in aggregate elements are not covered (findings D31, D35 live there). -/
theorem C09_copy_unfold_positive (P : Sem.Params) (hpers : Sem.AggPersistent P) (c : Canon) (ps : List Place) (hne : 0 < ps.length)
    (hps : ∀ p ∈ ps, PlaceOk c p) (ctx : Prog) (hctx : CtxAvoids c ctx) (T : Sem.Interp) :
    Sem.Stable (Sem.stdParams P) (after c ps ctx) T ↔ Sem.Stable (Sem.stdParams P) (beforeWith c ps ctx) T :=
  fold_all_existing hpers hne hps hctx T

/-! `u(X) :- d(X).  a(X) :- d(X).  #show a/1.`: `u/1` is defined and not used -/
namespace C09ex
open Proofs.C09sem Sem
def atomL (n : String) (vs : List String) : BLit := .lit (.pos, .sym (.fn n (vs.map Term.var) false))
def headL (n : String) (vs : List String) : Head := .lit (.pos, .sym (.fn n (vs.map Term.var) false))
def prg : Prog :=
  [.rule 1 1 (headL "u" ["X"]) [atomL "d" ["X"]], .rule 2 1 (headL "a" ["X"]) [atomL "d" ["X"]], .showSig "a" 1 true]
theorem check : unusedCheck "u" 1 prg = true := by
  decide +kernel
example (P : Params) (T : Interp) (hT : Stable (stdParams P) (keep "u" 1 prg) T) :
    Stable (stdParams P) prg (extend P "u" 1 prg T) :=
  unused_sound (C09_check_sound "u" 1 prg check) hT
end C09ex

end NgoVerif
