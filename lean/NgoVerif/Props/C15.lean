import NgoVerif.Proofs.C10multi
import NgoVerif.Generated.Tables
import NgoVerif.Meta.Algebra
import NgoVerif.Meta.Basic
/-!
# C15 — inline: unfolding an aggregate-defining rule into its one user keeps values

Unfolding `helper(V̄,S) :- body, S = #agg{…}` into the one element that uses `S` as its weight replaces a sum of
per-group sums by one sum over the union of the groups' tuple sets: exact iff those sets are pairwise disjoint, i.e.
iff the outer tuple determines the helper's arguments (`C15_sum_of_sums`; counterexample `C15_counterexample` = D11).
Removing the helper rule afterwards is definitional extension read backwards (`C15_remove_helper`).
-/
namespace NgoVerif

theorem C15_sum_of_sums {G T : Type} [DecidableEq T] (groups : Finset G) (elems : G → Finset T) (w : T → Int)
    (hdisj : ∀ g ∈ groups, ∀ g' ∈ groups, g ≠ g' → Disjoint (elems g) (elems g')) :
    ∑ t ∈ groups.biUnion elems, w t = ∑ g ∈ groups, ∑ t ∈ elems g, w t :=
  Finset.sum_biUnion hdisj

theorem C15_counterexample :
    ∃ (groups : Finset Bool) (elems : Bool → Finset Int) (w : Int → Int),
      ∑ t ∈ groups.biUnion elems, w t ≠ ∑ g ∈ groups, ∑ t ∈ elems g, w t :=
  Alg.sum_flatten_counterexample

theorem C15_remove_helper {α : Type} (P : HT.Prog α) (D : HT.Defs α) (hP : ∀ r, P r → HT.Indep D.A r)
    (hpers : ∀ a H T, HT.Sub H T → D.dfn a H T → D.dfn a T T)
    (T' : HT.Interp α) (hT' : HT.Stable (HT.Union P D.rules) T') :
    ∃ T, HT.Stable P T ∧ ∀ a, T' a ↔ HT.ext D T a :=
  ⟨_, HT.def_ext_complete D hP hpers hT'⟩

/-- the rows of `C01_wiring` for this pass -/
theorem C15_wiring :
    Tables.API_ARGS.lookup "inline" = some (["input_", "input_predicates", "output_predicates"], "input_", "input_") ∧
    Tables.CTOR_PARAMS.lookup "inline" = some ["prg", "input_predicates", "output_predicates"] := by decide +kernel

open Proofs.C10multi in
/-- inlining a helper into positive body literals: with the helper rule `s(V̄) :- B.` in the program, the rules
`headᵢ :- restᵢ, s(σᵢ V̄).` (`after`) and `headᵢ :- restᵢ ∪ σᵢ B.` (`beforeWith`) give the SAME stable models.  Removing the
helper afterwards is `C09_removal_*`.  The aggregate branch of `inline` (sum of sums) is not covered. -/
theorem C15_inline_positive_body (P : Sem.Params) (hpers : Sem.AggPersistent P) (c : Canon) (ps : List Place) (hne : 0 < ps.length)
    (hps : ∀ p ∈ ps, PlaceOk c p) (ctx : Prog) (hctx : CtxAvoids c ctx) (T : Sem.Interp) :
    Sem.Stable (Sem.stdParams P) (after c ps ctx) T ↔ Sem.Stable (Sem.stdParams P) (beforeWith c ps ctx) T :=
  fold_all_existing hpers hne hps hctx T

end NgoVerif
