import NgoVerif.Meta.Compose
import NgoVerif.Meta.Algebra
import NgoVerif.Props.C08
import NgoVerif.Props.C09
/-!
# C02 — optimisation statements keep the cost of every answer set

C02 is C01 with the cost vector added to the observation, so composition is the same theorem (`C02_compose`); the
cost-specific content is aggregate algebra over *sets* of weighted tuples:
telescoping chain weights add up to the original value (`C02_telescope`), unfolding a sum-valued weight into one
weak constraint per element is exact iff the produced tuples stay distinct (`C02_flatten`, counterexample
`C02_flatten_counterexample` = D11/D13).  The side conditions (tuple uniqueness, group arguments not anonymous) are
what the passes decide syntactically; that decision is validated on the real code by the cost-aware clingo oracle.
-/
namespace NgoVerif
open Compose

theorem C02_compose {Prog Inst Model Obs : Type} (AS : Prog → Inst → Model → Prop) (obsWithCost : Model → Obs)
    (P : Prog) (steps : List Prog) (h : Chain (EquivOn AS obsWithCost) P steps) :
    EquivOn AS obsWithCost P ((P :: steps).getLast (List.cons_ne_nil _ _)) :=
  chain_equiv P steps h

theorem C02_telescope (a : Int) (l : List Int) (k : Nat) (hk : k ≤ l.length) :
    a + Alg.tele ((a :: l).take (k + 1)) = (a :: l)[k]'(by simp; omega) :=
  Alg.tele_take a l k hk

theorem C02_flatten {G T : Type} [DecidableEq T] (groups : Finset G) (elems : G → Finset T) (w : T → Int)
    (hdisj : ∀ g ∈ groups, ∀ g' ∈ groups, g ≠ g' → Disjoint (elems g) (elems g')) :
    ∑ t ∈ groups.biUnion elems, w t = ∑ g ∈ groups, ∑ t ∈ elems g, w t :=
  Finset.sum_biUnion hdisj

theorem C02_flatten_counterexample :
    ∃ (groups : Finset Bool) (elems : Bool → Finset Int) (w : Int → Int),
      ∑ t ∈ groups.biUnion elems, w t ≠ ∑ g ∈ groups, ∑ t ∈ elems g, w t :=
  Alg.sum_flatten_counterexample

open Proofs.C08anonObj in
/-- `cleanup`, a weaker copy deleted from an objective: the same cost tuples in every total interpretation -/
theorem C02_cleanup_weaker_copy (P : Sem.PParams) (A : ObjAnon) (bb : List BLit)
    (hsame : Proofs.C08impl.sameLits bb (A.qLit :: A.body) = true) (h : objCheck A = true) (T : Sem.Interp)
    (tup : Sym × Sym × List Sym) :
    Sem.costTuples P T (.minimize A.line A.col A.weight A.prio A.terms bb) tup ↔ Sem.costTuples P T A.res tup :=
  C08_weaker_copy_in_objective_costs P A bb hsame h T tup

open Proofs.C08impl in
/-- `cleanup`, an implied literal deleted from an objective: the same cost tuples in every stable model -/
theorem C02_cleanup_implied (P : Sem.Params) (hdn : DnegOld P) (R : ObjRewrite) (bb : List BLit)
    (hsame : sameLits bb (R.qLit :: R.body) = true) (h : objImpliedCheck R = true) (T : Sem.Interp)
    (hS : Sem.Stable (Sem.stdParams P) R.src T) (tup : Sym × Sym × List Sym) :
    Sem.costTuples (Sem.stdParams P) T (.minimize R.line R.col R.weight R.prio R.terms bb) tup ↔
      Sem.costTuples (Sem.stdParams P) T R.resStm tup :=
  (C08_remove_implied_in_objective P hdn R bb hsame h T).2 hS tup

open Proofs.C09sem in
/-- `unused`, rules of an unobservable predicate removed: an objective that does not mention it has the same cost tuples in
two interpretations that agree off it (as corresponding answer sets do: `C09_removal_complete`) -/
theorem C02_unused_costs (P : Sem.Params) (n : Sem.Sig) (s : Stm) (hav : stmAvoids n s = true) (T T' : Sem.Interp)
    (hag : Sem.AgreeOffName n T T') (tup : Sym × Sym × List Sym) :
    Sem.costTuples (Sem.stdParams P) T s tup ↔ Sem.costTuples (Sem.stdParams P) T' s tup :=
  C09_removal_costs P n s hav T T' hag tup

end NgoVerif
