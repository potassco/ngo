import NgoVerif.Generated.Tables
import NgoVerif.Proofs.Eval
import NgoVerif.Model.Cleanup
import NgoVerif.Meta.M6
import NgoVerif.Proofs.C08sem
import NgoVerif.Proofs.C08fits
import NgoVerif.Proofs.C08impl
import NgoVerif.Proofs.C08trans
import NgoVerif.Proofs.C08anon
import NgoVerif.Proofs.C08anonStm
import NgoVerif.Proofs.C08anonObj
/-!
# C08 — cleanup deletes only literals and rules that cannot matter

What is proved, at four levels:
* **semantic schema** (ground level, here-and-there): removing a positive body atom `b` next to `p` is
  stable-model preserving when every rule that can derive `p` (plain or choice head) carries `b` in its body —
  `C08_remove_implied_positive` (M6⁺, definite-reduct class: bodies monotone in `H`) and supportedness
  `C08_supported` (M5), which is what makes a mapping computed as an *intersection over all defining rules* sound;
* **decision kernel of the model of `cleanup.py`** (`Model/Cleanup.lean`, tied to the code by correspondence):
  `_superseeded` never lets a positive atom supersede the *negated* atom of the same predicate, respects argument
  positions, and uses a mapping only with the sign it was recorded with; boolean elimination is sound for any
  literal semantics in which `#true` holds and `#false` does not;
* **the model function `remove_boolean` against the denotation of the typed AST**: the cleaned body means the same
  (`C08_remove_boolean_sound`) and the step is a strong equivalence of programs (`C08_remove_boolean_strongeq`);
* **one deletion, typed, from an executable check on its syntax** (the check takes the rule and the deleted literal, not
  the pass's mappings; the driver evaluates it on the deletions the real pass makes, `DriverSem.lean`):
  an implied literal of another predicate, for programs in the fragment of `Proofs/C08impl.lean` — same stable models
  from `impliedCheck` (`C08_remove_implied_typed`), from `impliedCheckT fuel` when the implication runs through a chain of
  predicates (`C08_remove_implied_typed_chain`), and in an objective with the same cost tuples
  (`C08_remove_implied_in_objective`); a weaker copy of the same literal (`p(X), p(_)`), in any program — strong
  equivalence in a body (`C08_remove_weaker_copy_strongeq`) and inside a condition
  (`C08_remove_weaker_copy_in_condition`), same cost tuples in an objective (`C08_weaker_copy_in_objective_costs`).
What is **not** proved: that the mappings the pass computes (intersection over rules, transitive closure, instance facts
over input predicates) lead only to deletions that pass one of these checks.  A deletion whose check fails — a program
outside the fragment, an implied literal of another predicate inside a condition — is validated on the real code by the
clingo oracle; the defect classes found there are listed in `known_findings.json` (D24–D26).
-/
namespace NgoVerif
open Cleanup

theorem C08_supported {α : Type} [DecidableEq α] {P : M6.Prog α} (hmono : M6.Mono P) {T : M6.Interp α}
    (hS : M6.Stable P T) (p : α) (hp : T p) : ∃ r, P r ∧ M6.Derives r p ∧ r.body T T :=
  M6.supported hmono hS p hp

/-- `hhd` and `hrestmono` are not needed by the proof -/
theorem C08_remove_implied_positive {α : Type} [DecidableEq α] (P : M6.Prog α) (hmono : M6.Mono P) (p b : α)
    (rest : M6.Interp α → M6.Interp α → Prop) (hd : M6.GHead α) (hhd : hd ≠ .atom p ∧ hd ≠ .choice p)
    (hrestmono : ∀ H₁ H₂ T, M6.Sub H₁ H₂ → M6.Sub H₂ T → rest H₁ T → rest H₂ T)
    (r₀ : M6.GRule α) (hr₀ : r₀ = ⟨hd, fun H T => H p ∧ H b ∧ rest H T⟩) (hin : P r₀)
    (himp : ∀ r, P r → M6.Derives r p → ∀ H T, r.body H T → H b) (T : M6.Interp α) :
    M6.Stable P T ↔
      M6.Stable (fun r => (P r ∧ r ≠ r₀) ∨ r = (⟨hd, fun H T => H p ∧ rest H T⟩ : M6.GRule α)) T :=
  M6.remove_implied_pos hmono hr₀ hin himp T

/-- a negative literal is never treated as implied by the positive atom of the same predicate; only positive literals
supersede; a recorded implication is used only with the sign it was recorded with -/
theorem C08_sign_respected (sups : List Mapping) (lhs rhs : Lit) (ln rn : String) (largs rargs : List Term)
    (hl : litSymbol? lhs = some (ln, largs)) (hr : litSymbol? rhs = some (rn, rargs))
    (h : superseededLit sups lhs rhs = .ok true) :
    lhs.1 = .pos ∧
    ((⟨ln, largs.length⟩ : Pred) = ⟨rn, rargs.length⟩ → rhs.1 ≠ .neg ∧ sameArgs largs rargs = true) ∧
    ((⟨ln, largs.length⟩ : Pred) ≠ ⟨rn, rargs.length⟩ →
      ∃ m ∈ sups, m.headPred = ⟨ln, largs.length⟩ ∧ m.bodyPred.pred = ⟨rn, rargs.length⟩ ∧ m.bodyPred.sign = rhs.1) := by
  unfold superseededLit at h
  rw [hl, hr] at h
  simp only [bne_iff_ne, ne_eq, ite_not, beq_iff_eq] at h
  by_cases hp : lhs.1 = .pos
  · rw [if_pos hp] at h
    refine ⟨hp, ?_⟩
    by_cases heq : (⟨ln, largs.length⟩ : Pred) = ⟨rn, rargs.length⟩
    · rw [if_pos heq] at h
      refine ⟨fun _ => ?_, fun hne => absurd heq hne⟩
      by_cases hn : rhs.1 = .neg
      · rw [if_pos hn] at h
        cases h
      · rw [if_neg hn] at h
        exact ⟨hn, Except.ok.inj h⟩
    · rw [if_neg heq] at h
      refine ⟨fun heq' => absurd heq' heq, fun _ => ?_⟩
      obtain ⟨m, hm, hf⟩ := anyFits_exists h
      exact ⟨m, hm, fitsMapping_guard hf⟩
  · rw [if_neg hp] at h
    cases h

theorem C08_same_args (l r : Term) (ls rs : List Term) (h : sameArgs (l :: ls) (r :: rs) = true) :
    (isAnonVar r = true ∨ (l == r) = true) ∧ sameArgs ls rs = true := by
  simpa [sameArgs] using h

theorem C08_remove_true_sound (sat : BLit → Prop) (htrue : ∀ l, blitTrue l = true → sat l) (body : List BLit) :
    (∀ l ∈ body, sat l) ↔ (∀ l ∈ removeTrueBLits body, sat l) := by
  unfold removeTrueBLits
  constructor
  · intro h l hl; exact h l (List.mem_filter.mp hl).1
  · intro h l hl
    by_cases ht : blitTrue l = true
    · exact htrue l ht
    · exact h l (List.mem_filter.mpr ⟨hl, by simpa using ht⟩)

theorem C08_contains_false_sound (sat : BLit → Prop) (hfalse : ∀ l, blitFalse l = true → ¬ sat l) (body : List BLit)
    (h : containsFalseBLits body = true) : ¬ ∀ l ∈ body, sat l := by
  unfold containsFalseBLits at h
  obtain ⟨l, hl, hf⟩ := List.any_eq_true.mp h
  exact fun hall => hfalse l hf (hall l hl)

theorem C08_true_false_exclusive (l : Lit) : ¬ (litTrue l = true ∧ litFalse l = true) := by
  obtain ⟨s, a⟩ := l
  cases s <;> cases a <;> simp [litTrue, litFalse]

/-- `p(X), not p(X)` keeps its negative literal, `p(X), p(_)` loses the weaker one -/
example :
    (match superseededLit [] (.pos, .sym (.fn "p" [.var "X"] false)) (.neg, .sym (.fn "p" [.var "X"] false)) with
      | .ok b => b == false | _ => false) = true ∧
    (match superseededLit [] (.pos, .sym (.fn "p" [.var "X"] false)) (.pos, .sym (.fn "p" [.var "_"] false)) with
      | .ok b => b == true | _ => false) = true := by
  decide


/-- conditional literals and aggregate element conditions are cleaned as well; `none`: the statement is deleted -/
theorem C08_remove_boolean_sound (P : Sem.Params) (G : String → Prop) (e : Sem.Env) (H T : Sem.Interp) (b : List BLit) :
    match removeBooleanBody b with
    | some b' => (Sem.bodySat P G e H T b' ↔ Sem.bodySat P G e H T b)
    | none => ¬ Sem.bodySat P G e H T b :=
  Proofs.C08sem.removeBooleanBody_sound P G e H T b


/-- the boolean step of `cleanup`: `remove_boolean` on every statement, statements whose body contains `#false` dropped -/
theorem C08_remove_boolean_strongeq (P : Sem.PParams) (prg : Prog) :
    Sem.StrongEq P prg (prg.filterMap removeBoolean) :=
  Sem.strongEq_of_filterMap removeBoolean prg (fun _ _ _ h => Proofs.StrongEq.stmSat_removeBoolean h)
    fun _ _ h => Proofs.StrongEq.stmSat_of_removeBoolean_none h


open Proofs.C08impl in
/-- `R.src` is `pre ++ [head :- q(t̄), body] ++ post`, `R.res` the same with `q(t̄)` deleted; `bb` has the literals of
`q(t̄) :: body`, in any order.  `impliedCheck` says: every statement is in the fragment (header of `Proofs/C08impl.lean`),
`p(s̄)` is among the remaining body literals, `q(t̄)` has no variable of its own, and every rule whose head is an
atom of `p/|s̄|` - every choice element whose atom is one - has a positive literal `q(w̄)` in its body (its condition) in
which each `w_j` is a variable standing at a position of the derived atom where `p(s̄)` carries `t_j`, or the constant
`t_j`.  `DnegOld`: the bounds of a choice (double negation) are evaluated in the total interpretation. -/
theorem C08_remove_implied_typed (P : Sem.Params) (hdn : DnegOld P) (R : Rewrite) (bb : List BLit)
    (hsame : sameLits bb (R.qLit :: R.body) = true) (h : impliedCheck R = true) (T : Sem.Interp) :
    Sem.Stable (Sem.stdParams P) (R.pre ++ .rule R.line R.col R.head bb :: R.post) T ↔
      Sem.Stable (Sem.stdParams P) R.res T :=
  remove_implied_anywhere hdn (impliedCheck_sound h) hsame T


open Proofs.C08impl Proofs.C08trans in
/-- `transitive_closure` of cleanup: `impliedCheckT fuel` follows `p ⟸ r ⟸ … ⟸ q` to depth `fuel`, composing the argument maps
(position `i` of the implying atom, or a constant) along the way -/
theorem C08_remove_implied_typed_chain (P : Sem.Params) (hdn : DnegOld P) (fuel : Nat) (R : Rewrite) (bb : List BLit)
    (hsame : sameLits bb (R.qLit :: R.body) = true) (h : impliedCheckT fuel R = true) (T : Sem.Interp) :
    Sem.Stable (Sem.stdParams P) (R.pre ++ .rule R.line R.col R.head bb :: R.post) T ↔
      Sem.Stable (Sem.stdParams P) R.res T :=
  remove_implied_anywhere hdn (impliedCheckT_sound h) hsame T

open Proofs.C08impl in
theorem C08_implied_check_sound (P : Sem.Params) (R : Rewrite) (h : impliedCheck R = true) : Ok R.src ∧ Implied P R :=
  impliedCheck_sound h

open Proofs.C08impl in
theorem C08_supported_typed (P : Sem.Params) (hdn : DnegOld P) (prg : Prog) (hok : Ok prg) (T : Sem.Interp)
    (hS : Sem.Stable (Sem.stdParams P) prg T) (a : Sem.GAtom) (ha : T a) : Derives P prg a T T :=
  supported P hdn prg hok hS a ha

/-! `b(X) :- a(X).  foo(X) :- a(X), b(X).` - cleanup deletes `a(X)` from the second rule -/
namespace C08ex
open Proofs.C08impl Sem
def atomL (n : String) (vs : List String) : BLit := .lit (.pos, .sym (.fn n (vs.map Term.var) false))
def headL (n : String) (vs : List String) : Head := .lit (.pos, .sym (.fn n (vs.map Term.var) false))
def R : Rewrite :=
  { pre := [.rule 1 1 (headL "b" ["X"]) [atomL "a" ["X"]],
            -- `{ b(X) : a(X) } :- c(X).`: a second way to derive `b`, through a choice element whose condition carries `a(X)`
            .rule 1 2 (.agg none [((.pos, .sym (.fn "b" [.var "X"] false)), [(.pos, .sym (.fn "a" [.var "X"] false))])] none) [atomL "c" ["X"]]], post := [.rule 3 1 (.lit (.pos, .bool false)) [atomL "foo" ["Y"], .lit (.pos, .cmp (.var "Y") [⟨.gt, .sym (.num 3)⟩])]],
    line := 2, col := 1, head := headL "foo" ["X"], body := [atomL "b" ["X"]], pn := "b", pargs := [.var "X"], qn := "a", qargs := [.var "X"] }
theorem check : impliedCheck R = true := by
  simp only [ngo_eval, impliedCheck, qVarsOk, R, headL, atomL]
  decide +kernel
example (P : Params) (hdn : DnegOld P) (T : Interp) :
    Stable (stdParams P) (R.pre ++ .rule 2 1 (headL "foo" ["X"]) [atomL "a" ["X"], atomL "b" ["X"]] :: R.post) T ↔ Stable (stdParams P) R.res T :=
  C08_remove_implied_typed P hdn R [atomL "a" ["X"], atomL "b" ["X"]]
    (by decide +kernel) check T
end C08ex



open Proofs.C08impl in
/-- an implied literal deleted from the body of an objective (fragment and check as for rules) -/
theorem C08_remove_implied_in_objective (P : Sem.Params) (hdn : DnegOld P) (R : ObjRewrite) (bb : List BLit)
    (hsame : sameLits bb (R.qLit :: R.body) = true) (h : objImpliedCheck R = true) (T : Sem.Interp) :
    (Sem.Stable (Sem.stdParams P) R.src T ↔ Sem.Stable (Sem.stdParams P) R.res T) ∧
      (Sem.Stable (Sem.stdParams P) R.src T →
        ∀ tup, Sem.costTuples (Sem.stdParams P) T (.minimize R.line R.col R.weight R.prio R.terms bb) tup ↔
          Sem.costTuples (Sem.stdParams P) T R.resStm tup) :=
  ⟨(obj_of_check P hdn R h T).1, fun hS tup =>
    ((sameLits_bodyEq hsame).costTuples_congr R.weight R.prio R.terms T tup).trans
      ((obj_of_check P hdn R h T).2 hS tup)⟩

open Proofs.C08anon in
/-- deleting `p(t̄)` next to `p(s̄)`, `t̄` being `s̄` with some arguments replaced by distinct variables that occur nowhere else
in the rule (the anonymous variables, renamed apart), in ANY program - aggregates, conditional literals, disjunctive and
choice heads included.  `bb` is the body before the deletion, with the literal anywhere. -/
theorem C08_remove_weaker_copy_strongeq (P : Sem.Params) (A : Anon) (bb : List BLit)
    (hsame : Proofs.C08impl.sameLits bb (A.qLit :: A.body) = true) (h : anonCheck A = true) (pre post : Prog) :
    Sem.StrongEq (Sem.stdParams P) (pre ++ .rule A.line A.col A.head bb :: post) (pre ++ A.res :: post) :=
  Sem.StrongEq.replace (fun H T =>
    ((Proofs.C08impl.sameLits_bodyEq hsame).stmSat_congr A.head H T).trans
      (stmSat_of_anonCheck h H T))
    pre post

/-! `c(X) :- b(X,Y), not e(Y), b(X,_).` (the anonymous variable renamed to `_#1`) -/
namespace C08anonEx
open Proofs.C08anon Sem
def A : Anon :=
  { line := 1, col := 1, head := .lit (.pos, .sym (.fn "c" [.var "X"] false)),
    body := [.lit (.pos, .sym (.fn "b" [.var "X", .var "Y"] false)), .lit (.neg, .sym (.fn "e" [.var "Y"] false))],
    pn := "b", sargs := [.var "X", .var "Y"], targs := [.var "X", .var "_#1"], F := ["_#1"] }
theorem check : anonCheck A = true := by
  simp only [ngo_eval, anonCheck, fresh?, A]
  decide +kernel
example (P : Params) (pre post : Prog) : StrongEq (stdParams P) (pre ++ A.src :: post) (pre ++ A.res :: post) :=
  StrongEq.replace (stmSat_of_anonCheck check) pre post
end C08anonEx


open Proofs.C08anonCond Proofs.C08anonStm in
/-- a weaker copy deleted from the condition of a conditional literal of the body, or from the condition of an element of
a body aggregate.  `condCheck` gets the variables of the rule outside of the shortened condition (`outsideClit` /
`outsideBagg`): the fresh ones are in none of them. -/
theorem C08_remove_weaker_copy_in_condition (P : Sem.Params) (A : CondAnon) (l c : Nat) (h : Head) (pre post : List BLit)
    (cfull : List Lit) (hsame : sameLitList cfull (A.qLit :: A.cond) = true) (ctxPre ctxPost : Prog) :
    (∀ hd, condCheck A (outsideClit h pre post hd) = true →
      Sem.StrongEq (Sem.stdParams P) (ctxPre ++ .rule l c h (pre ++ .clit (hd, cfull) :: post) :: ctxPost)
        (ctxPre ++ .rule l c h (pre ++ .clit (hd, A.cond) :: post) :: ctxPost)) ∧
    (∀ s ln cl lg rg f epre epost ts, condCheck A (outsideBagg h pre post lg rg epre epost ts) = true →
      Sem.StrongEq (Sem.stdParams P)
        (ctxPre ++ .rule l c h (pre ++ .lit (s, .bagg ln cl lg f (epre ++ (ts, cfull) :: epost) rg) :: post) :: ctxPost)
        (ctxPre ++ .rule l c h (pre ++ .lit (s, .bagg ln cl lg f (epre ++ (ts, A.cond) :: epost) rg) :: post) :: ctxPost)) :=
  ⟨fun hd hc =>
    Sem.StrongEq.replace (stmSat_of_condCheck_clit hsame hc) ctxPre ctxPost,
   fun s ln cl lg rg f epre epost ts hc =>
    Sem.StrongEq.replace (stmSat_of_condCheck_bagg hsame hc) ctxPre ctxPost⟩


open Proofs.C08anonObj in
/-- `:~ …, p(s̄), p(t̄), … . [w@p,t̄']` and the statement without the weaker copy `p(t̄)`: the same cost tuples in EVERY total
interpretation, not only in answer sets -/
theorem C08_weaker_copy_in_objective_costs (P : Sem.PParams) (A : ObjAnon) (bb : List BLit)
    (hsame : Proofs.C08impl.sameLits bb (A.qLit :: A.body) = true) (h : objCheck A = true) (T : Sem.Interp)
    (tup : Sym × Sym × List Sym) :
    Sem.costTuples P T (.minimize A.line A.col A.weight A.prio A.terms bb) tup ↔ Sem.costTuples P T A.res tup :=
  ((Proofs.C08impl.sameLits_bodyEq hsame).costTuples_congr A.weight A.prio A.terms T tup).trans
    (obj_costs_of_check h T tup)

/-! `ok(X) :- d(X), 1 <= #sum { 1,Y : b(X,Y), b(X,_) }.` -/
namespace C08condEx
open Proofs.C08anonCond Proofs.C08anonStm Sem
def A : CondAnon :=
  { cond := [(.pos, .sym (.fn "b" [.var "X", .var "Y"] false))], pn := "b", sargs := [.var "X", .var "Y"],
    targs := [.var "X", .var "_#1"], F := ["_#1"] }
def hd : Head := .lit (.pos, .sym (.fn "ok" [.var "X"] false))
def pre : List BLit := [.lit (.pos, .sym (.fn "d" [.var "X"] false))]
theorem check : condCheck A (outsideBagg hd pre [] (some ⟨.le, .sym (.num 1)⟩) none [] [] [.sym (.num 1), .var "Y"]) = true ∧
    sameLitList [(.pos, .sym (.fn "b" [.var "X", .var "Y"] false)), A.qLit] (A.qLit :: A.cond) = true := by
  simp only [ngo_eval, condCheck, outsideBagg, A, hd, pre]
  decide +kernel
example (P : Params) (ctx : Prog) :
    StrongEq (stdParams P)
      (ctx ++ .rule 1 1 hd (pre ++ .lit (.pos, .bagg 1 1 (some ⟨.le, .sym (.num 1)⟩) .sum
        ([] ++ ([.sym (.num 1), .var "Y"], [(.pos, .sym (.fn "b" [.var "X", .var "Y"] false)), A.qLit]) :: []) none) :: []) :: [])
      (ctx ++ .rule 1 1 hd (pre ++ .lit (.pos, .bagg 1 1 (some ⟨.le, .sym (.num 1)⟩) .sum
        ([] ++ ([.sym (.num 1), .var "Y"], A.cond) :: []) none) :: []) :: []) :=
  (C08_remove_weaker_copy_in_condition P A 1 1 hd pre [] _ check.2 ctx []).2 .pos 1 1 _ none .sum [] [] _ check.1
end C08condEx


/-! `b(X) :- d(X).  a(X) :- b(X).  c(X) :- a(X), d(X).` - `d(X)` follows from `a(X)` through `b(X)` -/
namespace C08chainEx
open Proofs.C08impl Proofs.C08trans Sem
def atomL (n : String) (vs : List String) : BLit := .lit (.pos, .sym (.fn n (vs.map Term.var) false))
def headL (n : String) (vs : List String) : Head := .lit (.pos, .sym (.fn n (vs.map Term.var) false))
def R : Rewrite :=
  { pre := [.rule 1 1 (headL "b" ["X"]) [atomL "d" ["X"]], .rule 2 1 (headL "a" ["X"]) [atomL "b" ["X"]]], post := [],
    line := 3, col := 1, head := headL "c" ["X"], body := [atomL "a" ["X"]], pn := "a", pargs := [.var "X"], qn := "d", qargs := [.var "X"] }
theorem check : impliedCheckT 2 R = true := by
  simp only [ngo_eval, impliedCheckT, qVarsOk, R, headL, atomL]
  decide +kernel
example (P : Params) (hdn : DnegOld P) (T : Interp) :
    Stable (stdParams P) (R.pre ++ .rule 3 1 (headL "c" ["X"]) [atomL "a" ["X"], atomL "d" ["X"]] :: R.post) T ↔ Stable (stdParams P) R.res T :=
  C08_remove_implied_typed_chain P hdn 2 R [atomL "a" ["X"], atomL "d" ["X"]]
    (by decide +kernel) check T
end C08chainEx

/-- the rows of `C01_wiring` for this pass -/
theorem C08_wiring :
    Tables.API_ARGS.lookup "cleanup" = some (["input_predicates"], "input_", "input_") ∧
    Tables.CTOR_PARAMS.lookup "cleanup" = some ["input_predicates"] := by decide +kernel

end NgoVerif
