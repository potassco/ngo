import NgoVerif.Generated.Tables
import NgoVerif.Meta.CmpChain
import NgoVerif.Meta.Agg
import NgoVerif.Proofs.C05sem
/-!
# C05 — with every trait disabled the rewrite is meaning-preserving for all predicates

The always-on normalisation consists of local, rule-by-rule rewrites.  Each one is justified by an equality of
*denotations* (same truth value for every environment and every here-and-there pair), hence by strong equivalence —
which is why arbitrary facts over any predicate may be added.  Proved here:

* the comparison tables used when a guard is moved from the right to the left of an aggregate and when a comparison
  is negated (`rhs2lhs_comparison`, `negate_comparison`, `compare`) — table theorems over the tables *generated* from
  `utils/ast.py` on every run;
* splitting a comparison chain into binary comparisons keeps the denotation of a body whose comparison literals are
  positive (`C05_expand_comparisons_partial`); for a *negated* chain of length ≥ 2 it does not
  (`C05_expand_comparisons_counterexample`, defect D8);
* `#count{t̄ : c} = #sum+{1,t̄ : c}` over arbitrary (also infinite) tuple sets (`C05_count_to_sum`);
* the tags that keep old-style aggregate elements apart are pairwise different (`C05_oldagg_tags_injective`, a table fact);
* for the model functions on the typed AST (`Model/Normalize.lean`), under the hypothesis `okBody` / `okStm` (every
  comparison literal has a guard, a negated one exactly one): `normalize_operators` keeps the denotation of every body
  (`C05_normalize_operators_partial`; without the hypothesis it does not, `C05_normalize_operators_counterexample`),
  `expand_comparisons` applied to every statement is a strong equivalence of programs
  (`C05_expand_comparisons_strongeq_partial`; `C05_strongeq_answer_sets`: same answer sets whatever is added) and keeps
  the cost tuples of every objective (`C05_expand_comparisons_costs_partial`).

Tied by correspondence (model `Model/Normalize.lean`): the concrete functions of `normalize.py`.
Not proved: old-style aggregate tagging, ex- and in-lining of arithmetic (`_partial` hypotheses documented in the
known findings D3, D19, D29, D30), `unpool` (clingo).
-/
namespace NgoVerif
open Tables

def CmpOp.holds : CmpOp → Int → Int → Prop
  | .gt, a, b => a > b
  | .lt, a, b => a < b
  | .le, a, b => a ≤ b
  | .ge, a, b => a ≥ b
  | .ne, a, b => a ≠ b
  | .eq, a, b => a = b

/-- `rhs2lhs_comparison`: `agg op t` and `t op' agg` say the same; the table is total -/
theorem C05_rhs2lhs_table :
    (∀ p ∈ RHS2LHS, ∀ a b : Int, CmpOp.holds p.2 b a ↔ CmpOp.holds p.1 a b) ∧
    (∀ op : CmpOp, ∃ p ∈ RHS2LHS, p.1 = op) := by
  constructor
  · intro p hp a b
    simp only [RHS2LHS, List.mem_cons, List.not_mem_nil, or_false] at hp
    rcases hp with rfl | rfl | rfl | rfl | rfl | rfl <;> simp only [CmpOp.holds] <;> omega
  · intro op; cases op <;> decide

/-- `negate_comparison`: the negated operator holds exactly when the operator does not; the table is total -/
theorem C05_negate_table :
    (∀ p ∈ NEGATE, ∀ a b : Int, CmpOp.holds p.2 a b ↔ ¬ CmpOp.holds p.1 a b) ∧
    (∀ op : CmpOp, ∃ p ∈ NEGATE, p.1 = op) := by
  constructor
  · intro p hp a b
    simp only [NEGATE, List.mem_cons, List.not_mem_nil, or_false] at hp
    rcases hp with rfl | rfl | rfl | rfl | rfl | rfl <;> simp only [CmpOp.holds] <;> omega
  · intro op; cases op <;> decide

/-- `compare(lhs, cmp, rhs)` evaluates the Python comparison of the same name; every operator has a branch -/
theorem C05_compare_table : (∀ p ∈ COMPARE, p.1 = p.2) ∧ (∀ op : CmpOp, ∃ p ∈ COMPARE, p.1 = op) := by
  constructor
  · decide
  · intro op; cases op <;> decide

theorem C05_expand_comparisons_partial (e : Br.Env) (H T : Br.Interp) (b : List Br.Lit)
    (hb : ∀ l ∈ b, ∀ s t gs, l = .cmp s t gs → s = .pos) :
    Br.bodySat e H T (Br.expandBody b) ↔ Br.bodySat e H T b :=
  Br.expandBody_sat fun l hl t gs h => nomatch hb l hl _ t gs h

/-- the full statement is false: `not 1 < 2 < 0` holds, `not 1 < 2, not 2 < 0` does not (defect D8) -/
theorem C05_expand_comparisons_counterexample :
    ∃ (e : Br.Env) (H T : Br.Interp) (t : Br.Term) (gs : List (Br.Op × Br.Term)),
      ¬ ((∀ l ∈ Br.splitChain .neg t gs, l.sat e H T) ↔ ¬ Br.chainHolds e t gs) :=
  Br.splitChain_neg_counterexample

theorem C05_count_to_sum (S : Set Agg.Tuple) :
    Agg.countOf S = Agg.sumPlusOf ((fun t => Agg.Val.num 1 :: t) '' S) :=
  Agg.count_eq_sumPlus S

theorem C05_oldagg_tags_injective :
    (OLDAGG_SIGN_TAG.map (·.2)).Nodup ∧ (OLDAGG_BOOL_TAG.map (·.2)).Nodup ∧
    (∀ s : Sign, ∃ p ∈ OLDAGG_SIGN_TAG, p.1 = s) := by
  refine ⟨by decide, by decide, ?_⟩
  intro s; cases s <;> decide


/-- `normalize_operators` as modelled in `Model/Normalize.lean` keeps the here-and-there denotation of every body,
conditional literals and aggregate element conditions included -/
theorem C05_normalize_operators_partial (P : Sem.Params) (G : String → Prop) (e : Sem.Env) (H T : Sem.Interp)
    (b : List BLit) (hok : Proofs.C05sem.okBody b = true) :
    Sem.bodySat P G e H T (normalizeOperators b) ↔ Sem.bodySat P G e H T b :=
  (Proofs.C05sem.normalizeOperators_bodyEq hok).sat G e H T

/-- … and without that hypothesis the model function does change the denotation (D8): `not 1 < 2 < 0` -/
theorem C05_normalize_operators_counterexample :
    ∃ (P : Sem.Params) (G : String → Prop) (e : Sem.Env) (H T : Sem.Interp) (b : List BLit),
      ¬ (Sem.bodySat P G e H T (normalizeOperators b) ↔ Sem.bodySat P G e H T b) := by
  let P : Sem.Params := {
    rel := fun op x y => match op, x, y with
      | .lt, .num a, .num b => a < b
      | _, _, _ => False
    un := fun _ _ => none, bin := fun _ _ _ => none,
    aggRel := fun _ _ _ _ _ _ => False, oldAggRel := fun _ _ _ _ _ => False }
  refine ⟨P, fun _ => False, fun _ => .num 0, fun _ => False, fun _ => False,
    [.lit (.neg, .cmp (.sym (.num 1)) [⟨.lt, .sym (.num 2)⟩, ⟨.lt, .sym (.num 0)⟩])], ?_⟩
  intro h
  have hb : Sem.bodySat P (fun _ => False) (fun _ => .num 0) (fun _ => False) (fun _ => False)
      [.lit (.neg, .cmp (.sym (.num 1)) [⟨.lt, .sym (.num 2)⟩, ⟨.lt, .sym (.num 0)⟩])] := by
    intro l hl
    cases List.mem_singleton.mp hl
    -- the chain `1 < 2 < 0` fails at its second link
    rintro ⟨-, ⟨x, y, hx, hy, hr⟩, -⟩
    cases hx; cases hy
    exact absurd hr (by decide)
  -- the expanded body holds as well, hence its first literal `not 1 < 2`: but `1 < 2` holds
  have h1 : ¬ Sem.chainHolds P _ _ _ := h.mpr hb (.lit (.neg, .cmp (.sym (.num 1)) [⟨.lt, .sym (.num 2)⟩])) List.mem_cons_self
  exact h1 ⟨⟨_, _, rfl, rfl, by decide⟩, trivial⟩


/-- `expand_comparisons` on every statement is the third step of `normalize`, as modelled -/
theorem C05_expand_comparisons_strongeq_partial (P : Sem.PParams) (prg : Prog)
    (hok : ∀ s ∈ prg, Proofs.StrongEq.okStm s = true) :
    Sem.StrongEq P prg (prg.map expandComparisons) :=
  Sem.strongEq_of_map expandComparisons prg fun s hs => Proofs.StrongEq.stmSat_expandComparisons (hok s hs)

theorem C05_strongeq_answer_sets (P : Sem.PParams) (prg prg' extra : Prog) (h : Sem.StrongEq P prg prg')
    (T : Sem.Interp) : Sem.Stable P (prg ++ extra) T ↔ Sem.Stable P (prg' ++ extra) T :=
  Sem.StrongEq.stable P (Sem.StrongEq.append h extra) T

theorem C05_expand_comparisons_costs_partial (P : Sem.PParams) (s : Stm) (hok : Proofs.StrongEq.okStm s = true)
    (T : Sem.Interp) (x : Sym × Sym × List Sym) :
    Sem.costTuples P T (expandComparisons s) x ↔ Sem.costTuples P T s x :=
  Proofs.StrongEq.costTuples_expandComparisons hok T x

end NgoVerif
