import NgoVerif.Meta.Basic
/-! folding: the defining body of an auxiliary atom replaced by the atom -/
namespace HT
variable {α : Type}

def mkRule (body head : Interp α → Interp α → Prop) : Rule α :=
  fun H T => (body H T → head H T) ∧ (body T T → head T T)

theorem mkRule_congr {b b' h h' : Interp α → Interp α → Prop} (hb : ∀ H T, b H T ↔ b' H T) (hh : ∀ H T, h H T ↔ h' H T)
    (H T : Interp α) : mkRule b h H T ↔ mkRule b' h' H T :=
  and_congr (imp_congr (hb H T) (hh H T)) (imp_congr (hb T T) (hh T T))

theorem indep_mkRule {A : α → Prop} {body head : Interp α → Interp α → Prop}
    (hb : Indep A body) (hh : Indep A head) : Indep A (mkRule body head) :=
  fun _ _ _ _ aH aT => and_congr (imp_congr (hb.iff aH aT) (hh.iff aH aT)) (imp_congr (hb.iff aT aT) (hh.iff aT aT))

theorem indep_and {A : α → Prop} {p q : Interp α → Interp α → Prop} (hp : Indep A p) (hq : Indep A q) :
    Indep A (fun H T => p H T ∧ q H T) :=
  fun _ _ _ _ aH aT => and_congr (hp.iff aH aT) (hq.iff aH aT)

/-- a family of ground rules, one per environment: what a rule with variables denotes -/
def family {E : Type} (body head : E → Interp α → Interp α → Prop) : Prog α := fun r => ∃ e, r = mkRule (body e) (head e)

theorem models_family {E : Type} {body head : E → Interp α → Interp α → Prop} {H T : Interp α} :
    Models (family body head) H T ↔ ∀ e, mkRule (body e) (head e) H T :=
  ⟨fun h e => h _ ⟨e, rfl⟩, by rintro h _ ⟨e, rfl⟩; exact h e⟩

theorem family_congr {E : Type} {b b' h h' : E → Interp α → Interp α → Prop} (hb : ∀ e H T, b e H T ↔ b' e H T)
    (hh : ∀ e H T, h e H T ↔ h' e H T) : SEq (family b h) (family b' h') := fun H T => by
  rw [models_family, models_family]
  exact forall_congr' fun e => mkRule_congr (hb e) (hh e) H T

theorem models_family_prod {ι E : Type} {body head : ι × E → Interp α → Interp α → Prop} {H T : Interp α} :
    Models (family body head) H T ↔ ∀ i, Models (family (fun e => body (i, e)) fun e => head (i, e)) H T := by
  simp only [models_family, Prod.forall]

def Fold (D : Defs α) (r rf : Rule α) : Prop :=
  ∃ a rest head, D.A a ∧ Indep D.A rest ∧ Indep D.A head ∧
    r = mkRule (fun H T => D.dfn a H T ∧ rest H T) head ∧
    rf = mkRule (fun H T => H a ∧ rest H T) head

structure Folding (D : Defs α) (P Pf : Prog α) : Prop where
  fwd : ∀ r, P r → (Pf r ∧ Indep D.A r) ∨ ∃ rf, Pf rf ∧ Fold D r rf
  bwd : ∀ rf, Pf rf → (P rf ∧ Indep D.A rf) ∨ ∃ r, P r ∧ Fold D r rf

theorem fold_stable {P Pf : Prog α} {D : Defs α} (hP : ∀ r, P r → Indep D.A r) (hF : Folding D P Pf) (T' : Interp α) :
    Stable (Union P D.rules) T' ↔ Stable (Union Pf D.rules) T' := by
  have unfold : ∀ H, Models (Union Pf D.rules) H T' → Models (Union P D.rules) H T' := by
    intro H hM
    obtain ⟨hMf, hMD⟩ := models_union.mp hM
    refine models_union.mpr ⟨fun r hr => ?_, hMD⟩
    rcases hF.fwd r hr with h | ⟨rf, hrf, a, rest, head, hA, _, _, rfl, rfl⟩
    · exact hMf r h.1
    · have hd := models_defs_rules.mp hMD a hA
      exact ⟨fun hb => (hMf _ hrf).1 ⟨hd.1 hb.1, hb.2⟩, fun hb => (hMf _ hrf).2 ⟨hd.2 hb.1, hb.2⟩⟩
  constructor
  · intro hS
    refine ⟨?_, fun H hH hM => hS.2 H hH (unfold H hM)⟩
    obtain ⟨hMP, hMD⟩ := models_union.mp hS.1
    refine models_union.mpr ⟨fun rf hrf => ?_, hMD⟩
    rcases hF.bwd rf hrf with h | ⟨r, hr, a, rest, head, hA, _, _, rfl, rfl⟩
    · exact hMP rf h.1
    · -- the auxiliary atom in the body holds only with its defining body
      have : (T' a ∧ rest T' T') → head T' T' := fun hb => (hMP _ hr).2 ⟨aux_supported hP hS hA hb.1, hb.2⟩
      exact ⟨this, this⟩
  · intro hS
    refine stable_of_least (unfold T' hS.1) fun H' hH' hM => ?_
    obtain ⟨hMP, hMD⟩ := models_union.mp hM
    have hD := models_defs_rules.mp hMD
    -- `H'` with exactly the auxiliary atoms its definitions give is a model of the folded program below `H'`
    let H'' : Interp α := fun a => (¬ D.A a ∧ H' a) ∨ (D.A a ∧ D.dfn a H' T')
    have ag : AgreeOff D.A H' H'' := agreeOff_glue D.A H' _
    have hsub : Sub H'' H' := fun a ha => ha.elim (·.2) fun h => (hD a h.1).1 h.2
    have hMD'' : Models D.rules H'' T' :=
      models_defs_rules.mpr fun b hB => ⟨fun hd => .inr ⟨hB, ((D.indep b).iff ag .rfl).mpr hd⟩, (hD b hB).2⟩
    have hMf'' : Models Pf H'' T' := by
      intro rf hrf
      rcases hF.bwd rf hrf with h | ⟨r, hr, a, rest, head, hA, hrest, hhead, rfl, rfl⟩
      · exact (h.2.iff ag .rfl).mp (hMP rf h.1)
      · refine ⟨fun hb => ?_, ((models_union.mp hS.1).1 _ hrf).2⟩
        have ha : D.dfn a H' T' := hb.1.elim (fun h => absurd hA h.1) (·.2)
        exact (hhead.iff ag .rfl).mp ((hMP _ hr).1 ⟨ha, (hrest.iff ag .rfl).mpr hb.2⟩)
    -- so `H''` is `T'`, and `T' ⊆ H'' ⊆ H'`
    exact fun a ha => hsub a (hS.least (fun a ha => hH' a (hsub a ha)) (models_union.mpr ⟨hMf'', hMD''⟩) a ha)
end HT
