import Mathlib.Algebra.BigOperators.Group.Finset.Basic
import Mathlib.Data.Finset.Card
import Mathlib.Tactic.Ring
import Mathlib.Data.Finset.Max
/-!
# M7 / M8 — order and aggregate algebra used by the chain traits

Telescoping over a list of domain values (`sum_chains`, and the objective weights of `minmax_chains`), `X != Y` → `X < Y`
for symmetric bodies (`symmetry`), `#max` through a chain (`minmax_chains`), exact integer elimination (`math`), and the
sum of sums, whose flattening needs tuples that stay distinct (`inline`, `math`).
-/
namespace Alg

def tele : List Int → Int
  | [] => 0
  | [_] => 0
  | a :: b :: rest => (b - a) + tele (b :: rest)

/-- the chain encoding of "the value is `d_k`": base weight `d₀` plus one difference per chain step up to `k` -/
theorem tele_take (a : Int) (l : List Int) (k : Nat) (hk : k ≤ l.length) :
    a + tele ((a :: l).take (k + 1)) = (a :: l)[k]'(by simp; omega) := by
  induction k generalizing a l with
  | zero => exact Int.add_zero a
  | succ k ih =>
    obtain _ | ⟨b, rest⟩ := l
    · exact absurd hk (Nat.not_succ_le_zero k)
    · show a + ((b - a) + tele ((b :: rest).take (k + 1))) = (b :: rest)[k]
      rw [← ih b rest (Nat.le_of_succ_le_succ hk)]
      omega

theorem tele_eq (a : Int) (l : List Int) : a + tele (a :: l) = (a :: l).getLast (List.cons_ne_nil _ _) := by
  have h := tele_take a l l.length le_rfl
  rw [List.take_of_length_le (by simp)] at h
  rw [h, List.getLast_eq_getElem]
  rfl

/-- `R x y`: the rest of the rule holds with the two compared variables at `x` and `y` — all of it, so the symmetry asked for
covers every place where the two variables are visible -/
theorem neq_to_lt (R : Int → Int → Prop) (hsym : ∀ x y, R x y → R y x) :
    (∃ x y, x ≠ y ∧ R x y) ↔ (∃ x y, x < y ∧ R x y) := by
  constructor
  · rintro ⟨x, y, hne, h⟩
    rcases Int.lt_or_gt_of_ne hne with hlt | hgt
    · exact ⟨x, y, hlt, h⟩
    · exact ⟨y, x, hgt, hsym x y h⟩
  · rintro ⟨x, y, hlt, h⟩
    exact ⟨x, y, Int.ne_of_lt hlt, h⟩

/-- without symmetry the rewrite is wrong -/
theorem neq_to_lt_counterexample :
    ∃ R : Int → Int → Prop, ¬ ((∃ x y, x ≠ y ∧ R x y) ↔ (∃ x y, x < y ∧ R x y)) := by
  refine ⟨fun x y => x = 1 ∧ y = 0, ?_⟩
  intro h
  obtain ⟨x, y, hlt, hx, hy⟩ := h.mp ⟨1, 0, by decide, rfl, rfl⟩
  omega

/-- the `chain(v)` of the encoding -/
def chainAt (S : Finset Int) (v : Int) : Prop := ∃ s ∈ S, v ≤ s

theorem chain_iff_le_max {S : Finset Int} {m : Int} (hm : m ∈ S) (hmax : ∀ s ∈ S, s ≤ m) {v : Int} :
    chainAt S v ↔ v ≤ m := by
  constructor
  · rintro ⟨s, hs, hv⟩; exact le_trans hv (hmax s hs)
  · intro h; exact ⟨m, hm, h⟩

/-- the result rule `max(v) :- chain(v), not chain(n) : next(v,n)` picks exactly the maximum, where `next` is the
covering relation of a domain that contains the selected elements -/
theorem result_is_max (D S : Finset Int) (hSD : S ⊆ D) (m : Int) (hm : m ∈ S) (hmax : ∀ s ∈ S, s ≤ m)
    (next : Int → Int → Prop)
    (hnext : ∀ a b, next a b ↔ a ∈ D ∧ b ∈ D ∧ a < b ∧ ∀ c ∈ D, ¬ (a < c ∧ c < b)) (v : Int) (hv : v ∈ D) :
    (chainAt S v ∧ ∀ n, next v n → ¬ chainAt S n) ↔ v = m := by
  constructor
  · rintro ⟨hc, hn⟩
    by_contra hne
    have hlt : v < m := lt_of_le_of_ne ((chain_iff_le_max hm hmax).mp hc) hne
    -- the least element of `D` above `v` is a successor of `v` and at most `m`
    have hmem : m ∈ D.filter (v < ·) := Finset.mem_filter.mpr ⟨hSD hm, hlt⟩
    obtain ⟨n, hnmem, hmin⟩ := (D.filter (v < ·)).exists_min_image id ⟨m, hmem⟩
    obtain ⟨hnD, hvn⟩ := Finset.mem_filter.mp hnmem
    have hnm : n ≤ m := hmin m hmem
    have hvn' : next v n :=
      (hnext v n).mpr ⟨hv, hnD, hvn, fun c hc h => not_lt.mpr (hmin c (Finset.mem_filter.mpr ⟨hc, h.1⟩)) h.2⟩
    exact hn n hvn' ((chain_iff_le_max hm hmax).mpr hnm)
  · rintro rfl
    exact ⟨⟨v, hm, le_refl _⟩, fun n hn hc =>
      not_lt.mpr ((chain_iff_le_max hm hmax).mp hc) ((hnext v n).mp hn).2.2.1⟩

theorem eliminate_iff_dvd (a t : Int) : (∃ v : Int, a * v + t = 0) ↔ a ∣ t := by
  constructor
  · rintro ⟨v, h⟩; exact ⟨-v, by rw [Int.mul_neg]; omega⟩
  · rintro ⟨c, rfl⟩; exact ⟨-c, by rw [Int.mul_neg]; omega⟩

theorem eliminate_unit (t : Int) : (∃ v : Int, 1 * v + t = 0) ∧ (∃ v : Int, (-1) * v + t = 0) :=
  ⟨⟨-t, by ring⟩, ⟨t, by ring⟩⟩

/-- `X = Y*3` cannot be dropped: for `X = 4` there is no `Y` -/
theorem eliminate_counterexample : ¬ ∃ y : Int, (4 : Int) = y * 3 := by
  rintro ⟨y, h⟩; omega

/-- without disjointness it fails: two groups contributing the same tuple `(3)` count once instead of twice (D11) -/
theorem sum_flatten_counterexample :
    ∃ (groups : Finset Bool) (elems : Bool → Finset Int) (w : Int → Int),
      ∑ t ∈ groups.biUnion elems, w t ≠ ∑ g ∈ groups, ∑ t ∈ elems g, w t := by
  refine ⟨{true, false}, fun _ => {3}, id, ?_⟩
  decide +kernel

end Alg
