import Mathlib.Data.Set.Finite.Basic
import Mathlib.Algebra.BigOperators.Group.Finset.Basic
import Mathlib.Data.Set.Card

/-! The values of `#sum`, `#sum+` and `#count` on a set of tuples that may be infinite (the value is then 0, a convention of this
file), and `#count` as a `#sum+` over the tuples with a leading `1` (M8 of DESIGN §3) -/
namespace Agg
open Classical

inductive Val where
  | num (n : Int) | id (s : String) | inf | sup
  deriving DecidableEq

abbrev Tuple := List Val

def weight : Tuple → Int
  | Val.num n :: _ => n
  | _ => 0

noncomputable def sumOf (S : Set Tuple) : Int :=
  if h : S.Finite then ∑ t ∈ h.toFinset, weight t else 0

noncomputable def sumPlusOf (S : Set Tuple) : Int :=
  if h : S.Finite then ∑ t ∈ h.toFinset, max (weight t) 0 else 0

noncomputable def countOf (S : Set Tuple) : Int :=
  if h : S.Finite then (h.toFinset.card : Int) else 0

theorem count_eq_sumPlus (S : Set Tuple) :
    countOf S = sumPlusOf ((fun t => Val.num 1 :: t) '' S) := by
  have inj : Function.Injective (fun t : Tuple => Val.num 1 :: t) := fun _ _ h => List.tail_eq_of_cons_eq h
  unfold countOf sumPlusOf
  by_cases h : S.Finite
  · rw [dif_pos h, dif_pos (h.image _), Set.Finite.toFinset_image _ h, Finset.sum_image inj.injOn]
    simp [weight]
  · rw [dif_neg h, dif_neg (mt (Set.finite_image_iff inj.injOn).mp h)]
end Agg
