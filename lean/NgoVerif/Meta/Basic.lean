/-! shallow here-and-there semantics: a ground rule is its satisfaction relation on HT pairs; definitional extension -/
namespace HT
variable {α : Type}

abbrev Interp (α : Type) := α → Prop

def Sub (H T : Interp α) : Prop := ∀ a, H a → T a
def SSub (H T : Interp α) : Prop := Sub H T ∧ ∃ a, T a ∧ ¬ H a

abbrev Rule (α : Type) := Interp α → Interp α → Prop
abbrev Prog (α : Type) := Rule α → Prop

def Models (P : Prog α) (H T : Interp α) : Prop := ∀ r, P r → r H T

def Stable (P : Prog α) (T : Interp α) : Prop :=
  Models P T T ∧ ∀ H, SSub H T → ¬ Models P H T

def AgreeOff (A : α → Prop) (I J : Interp α) : Prop := ∀ a, ¬ A a → (I a ↔ J a)

def Indep (A : α → Prop) (r : Rule α) : Prop :=
  ∀ H T H' T', AgreeOff A H H' → AgreeOff A T T' → (r H T ↔ r H' T')

/-- definitions of the atoms in A : `dfn a H T` is the (disjunction of the) bodies.  `indep` is asked of `dfn a` for every
`a`, also outside `A`, where `rules` and `ext` never look at it: there any relation independent of `A` will do
(`fun _ _ => False`). -/
structure Defs (α : Type) where
  A : α → Prop
  dfn : α → Interp α → Interp α → Prop
  indep : ∀ a, Indep A (dfn a)

def Defs.rules (D : Defs α) : Prog α :=
  fun r => ∃ a, D.A a ∧ r = fun H T => (D.dfn a H T → H a) ∧ (D.dfn a T T → T a)

def Union (P Q : Prog α) : Prog α := fun r => P r ∨ Q r

def ext (D : Defs α) (T : Interp α) : Interp α :=
  fun a => (¬ D.A a ∧ T a) ∨ (D.A a ∧ D.dfn a T T)

theorem models_union {P Q : Prog α} {H T : Interp α} : Models (Union P Q) H T ↔ Models P H T ∧ Models Q H T :=
  ⟨fun h => ⟨fun r hr => h r (.inl hr), fun r hr => h r (.inr hr)⟩, fun h r hr => hr.elim (h.1 r) (h.2 r)⟩

theorem models_defs_rules {D : Defs α} {H T : Interp α} :
    Models D.rules H T ↔ ∀ a, D.A a → (D.dfn a H T → H a) ∧ (D.dfn a T T → T a) :=
  ⟨fun h a hA => h _ ⟨a, hA, rfl⟩, by rintro h _ ⟨a, hA, rfl⟩; exact h a hA⟩

def SEq (P Q : Prog α) : Prop := ∀ H T, Models P H T ↔ Models Q H T

theorem SEq.refl (P : Prog α) : SEq P P := fun _ _ => Iff.rfl
theorem SEq.symm {P Q : Prog α} (h : SEq P Q) : SEq Q P := fun H T => (h H T).symm
theorem SEq.trans {P Q R : Prog α} (h : SEq P Q) (h' : SEq Q R) : SEq P R := fun H T => (h H T).trans (h' H T)

theorem SEq.union {P P' Q Q' : Prog α} (h : SEq P P') (h' : SEq Q Q') : SEq (Union P Q) (Union P' Q') :=
  fun H T => by rw [models_union, models_union, h H T, h' H T]

theorem SEq.stable {P Q : Prog α} (h : SEq P Q) (T : Interp α) : Stable P T ↔ Stable Q T :=
  and_congr (h T T) (forall_congr' fun H => imp_congr_right fun _ => not_congr (h H T))

theorem AgreeOff.rfl {A : α → Prop} {I : Interp α} : AgreeOff A I I := fun _ _ => Iff.rfl

theorem AgreeOff.symm {A : α → Prop} {I J : Interp α} (h : AgreeOff A I J) : AgreeOff A J I := fun a ha => (h a ha).symm

theorem agreeOff_restrict (A : α → Prop) (T : Interp α) : AgreeOff A (fun a => T a ∧ ¬ A a) T :=
  fun _ ha => ⟨And.left, fun h => ⟨h, ha⟩⟩

theorem Indep.iff {A : α → Prop} {r : Rule α} (h : Indep A r) {H T H' T' : Interp α} (aH : AgreeOff A H H')
    (aT : AgreeOff A T T') : r H T ↔ r H' T' :=
  h H T H' T' aH aT

theorem Indep.anti {A A' : α → Prop} (h : ∀ a, A a → A' a) {r : Rule α} (hr : Indep A' r) : Indep A r :=
  fun _ _ _ _ aH aT => hr.iff (fun a ha => aH a (mt (h a) ha)) (fun a ha => aT a (mt (h a) ha))

theorem models_indep {P : Prog α} {A : α → Prop} (hP : ∀ r, P r → Indep A r) {H T H' T' : Interp α}
    (aH : AgreeOff A H H') (aT : AgreeOff A T T') : Models P H T ↔ Models P H' T' :=
  forall_congr' fun r => imp_congr_right fun hr => (hP r hr).iff aH aT

/-- `ext D T` and `rext D T` unfold to this shape (`X` = the defined atoms that hold), so this serves both by `rfl` -/
theorem agreeOff_glue (A : α → Prop) (T X : Interp α) :
    AgreeOff A T (fun a => (¬ A a ∧ T a) ∨ (A a ∧ X a)) :=
  fun _ ha => ⟨fun h => .inl ⟨ha, h⟩, fun h => h.elim (·.2) (fun h => absurd h.1 ha)⟩

theorem ext_on {D : Defs α} {T : Interp α} {a : α} (hA : D.A a) : ext D T a ↔ D.dfn a T T :=
  ⟨fun h => h.elim (fun h => absurd hA h.1) (·.2), fun h => .inr ⟨hA, h⟩⟩

theorem ext_off {D : Defs α} {T : Interp α} {a : α} (hA : ¬ D.A a) : ext D T a ↔ T a :=
  (agreeOff_glue D.A T (fun a => D.dfn a T T) a hA).symm

theorem Stable.least {P : Prog α} {T H : Interp α} (hT : Stable P T) (hsub : Sub H T) (hM : Models P H T) : Sub T H :=
  fun a ha => Classical.byContradiction fun hna => hT.2 H ⟨hsub, a, ha, hna⟩ hM

theorem stable_of_least {P : Prog α} {T : Interp α} (hM : Models P T T)
    (h : ∀ H, Sub H T → Models P H T → Sub T H) : Stable P T :=
  ⟨hM, fun H ⟨hsub, a, ha, hna⟩ hMH => hna (h H hsub hMH a ha)⟩

theorem stable_union_of_least {P Q : Prog α} {A : α → Prop} (hP : ∀ r, P r → Indep A r) {T T' : Interp α}
    (hT : Stable P T) (agree : AgreeOff A T T') (hQ : Models Q T' T')
    (hleast : ∀ H', Sub H' T' → Models Q H' T' → AgreeOff A H' T → ∀ a, A a → T' a → H' a) :
    Stable (Union P Q) T' := by
  refine stable_of_least (models_union.mpr ⟨(models_indep hP agree agree).mp hT.1, hQ⟩) fun H' hH' hM a ha => ?_
  obtain ⟨hMP, hMQ⟩ := models_union.mp hM
  -- `H'` without its `A`-atoms is a model of `P` below `T`, so it is `T`
  have hHT : Sub (fun a => H' a ∧ ¬ A a) T := fun a ha => (agree a ha.2).mpr (hH' a ha.1)
  have hTH := hT.least hHT ((models_indep hP (agreeOff_restrict A H') agree).mpr hMP)
  by_cases hA : A a
  · exact hleast H' hH' hMQ (fun b hb => ⟨fun h => hHT b ⟨h, hb⟩, fun h => (hTH b h).1⟩) a hA ha
  · exact (hTH a ((agree a hA).mpr ha)).1

theorem def_ext_sound {P : Prog α} (D : Defs α) (hP : ∀ r, P r → Indep D.A r)
    {T : Interp α} (hT : Stable P T) : Stable (Union P D.rules) (ext D T) := by
  have agree := agreeOff_glue D.A T (fun a => D.dfn a T T)
  refine stable_union_of_least hP hT agree (models_defs_rules.mpr fun a hA => ?_) ?_
  · have h : D.dfn a (ext D T) (ext D T) → ext D T a := fun h => (ext_on hA).mpr (((D.indep a).iff agree agree).mpr h)
    exact ⟨h, h⟩
  · intro H' _ hM ag a hA ha
    exact (models_defs_rules.mp hM a hA).1 (((D.indep a).iff ag agree.symm).mpr ((ext_on hA).mp ha))

/-- without an auxiliary atom that its definition does not support the interpretation would still be a model -/
theorem aux_supported {P : Prog α} {D : Defs α} (hP : ∀ r, P r → Indep D.A r) {T' : Interp α}
    (hT' : Stable (Union P D.rules) T') {a : α} (hA : D.A a) (hTa : T' a) : D.dfn a T' T' := by
  obtain ⟨hMP, hMD⟩ := models_union.mp hT'.1
  have hD := models_defs_rules.mp hMD
  refine Classical.byContradiction fun hnd => ?_
  let H : Interp α := fun b => T' b ∧ b ≠ a
  have ag : AgreeOff D.A H T' := fun b hb => ⟨And.left, fun h => ⟨h, fun e => hb (e ▸ hA)⟩⟩
  have hMP' : Models P H T' := (models_indep hP ag .rfl).mpr hMP
  have hMD' : Models D.rules H T' := by
    refine models_defs_rules.mpr fun b hB => ⟨fun hd => ?_, (hD b hB).2⟩
    -- a definition that fires at `(H, T')` fires at `(T', T')`, so it is not that of `a`
    have hd' := ((D.indep b).iff ag .rfl).mp hd
    exact ⟨(hD b hB).2 hd', fun e => hnd (e ▸ hd')⟩
  exact (hT'.least (fun _ hb => hb.1) (models_union.mpr ⟨hMP', hMD'⟩) a hTa).2 rfl

theorem def_ext_complete {P : Prog α} (D : Defs α) (hP : ∀ r, P r → Indep D.A r)
    (hpers : ∀ a H T, Sub H T → D.dfn a H T → D.dfn a T T)
    {T' : Interp α} (hT' : Stable (Union P D.rules) T') :
    Stable P (fun a => T' a ∧ ¬ D.A a) ∧ ∀ a, T' a ↔ ext D (fun a => T' a ∧ ¬ D.A a) a := by
  obtain ⟨hMP, hMD⟩ := models_union.mp hT'.1
  have hD := models_defs_rules.mp hMD
  have agT := agreeOff_restrict D.A T'
  refine ⟨stable_of_least ((models_indep hP agT agT).mpr hMP) fun H hH hMH a ha => ?_, fun a => ?_⟩
  · -- `H` with the auxiliary atoms of `T'` is a model of `P ∪ D` below `T'`
    let H' : Interp α := fun a => (¬ D.A a ∧ H a) ∨ (D.A a ∧ T' a)
    have hsub : Sub H' T' := fun a ha => ha.elim (fun h => (hH a h.2).1) (·.2)
    have hM : Models (Union P D.rules) H' T' := models_union.mpr ⟨(models_indep hP (agreeOff_glue D.A H T') agT).mp hMH,
      models_defs_rules.mpr fun b hB => ⟨fun hd => .inr ⟨hB, (hD b hB).2 (hpers b H' T' hsub hd)⟩, (hD b hB).2⟩⟩
    exact (hT'.least hsub hM a ha.1).elim (·.2) fun h => absurd h.1 ha.2
  · by_cases hA : D.A a
    · rw [ext_on hA, (D.indep a).iff agT agT]
      exact ⟨aux_supported hP hT' hA, (hD a hA).2⟩
    · exact ((ext_off hA).trans (agT a hA)).symm
end HT
