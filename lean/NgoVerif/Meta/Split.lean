import NgoVerif.Meta.Fold
/-!
# The split (projection / factoring) schema at the ground level, with the exact side condition

A rule schema `Hd(e) ← N(e) ∧ R(e)` (one ground rule per environment `e`) is replaced by
`aux(t e) ← N(e)` and `Hd(e) ← R(e) ∧ aux(t e)` with fresh atoms `aux k`.  The side condition (`Glue`) says that an
environment may be re-assembled from the `N`-part of one environment and the `R`/head-part of another whenever the two
agree on the interface `t` — i.e. every variable shared between the moved part and the rest is passed through the
auxiliary atom.  Under it the stable models correspond one-to-one (`split_sound`, `split_complete`).
-/
namespace HT
variable {α E K : Type}

structure SplitData (α E K : Type) where
  P0 : Prog α
  N : E → Interp α → Interp α → Prop
  R : E → Interp α → Interp α → Prop
  Hd : E → Interp α → Interp α → Prop
  t : E → K
  aux : K → α
  aux_inj : ∀ k k', aux k = aux k' → k = k'

namespace SplitData
variable (S : SplitData α E K)

def A : α → Prop := fun a => ∃ k, a = S.aux k

def Glue : Prop := ∀ e e', S.t e' = S.t e → ∃ e'',
  (∀ H T, S.N e'' H T ↔ S.N e' H T) ∧ (∀ H T, S.R e'' H T ↔ S.R e H T) ∧ (∀ H T, S.Hd e'' H T ↔ S.Hd e H T)

structure WF : Prop where
  p0 : ∀ r, S.P0 r → Indep S.A r
  n : ∀ e, Indep S.A (S.N e)
  r : ∀ e, Indep S.A (S.R e)
  hd : ∀ e, Indep S.A (S.Hd e)
  pers : ∀ e H T, Sub H T → S.N e H T → S.N e T T

def dfn (a : α) (H T : Interp α) : Prop := ∃ e, a = S.aux (S.t e) ∧ S.N e H T

def defs (h : S.WF) : Defs α where
  A := S.A
  dfn := S.dfn
  indep := by
    intro a H T H' T' aH aT
    simp only [dfn]
    constructor
    · rintro ⟨e, ha, hn⟩; exact ⟨e, ha, (h.n e H T H' T' aH aT).mp hn⟩
    · rintro ⟨e, ha, hn⟩; exact ⟨e, ha, (h.n e H T H' T' aH aT).mpr hn⟩

def orig : Prog α := fun r => S.P0 r ∨ ∃ e, r = mkRule (fun H T => S.N e H T ∧ S.R e H T) (S.Hd e)
/-- the original program with the moved part replaced by the *definition* of its auxiliary atom -/
def unfolded : Prog α := fun r => S.P0 r ∨ ∃ e, r = mkRule (fun H T => S.dfn (S.aux (S.t e)) H T ∧ S.R e H T) (S.Hd e)
def folded : Prog α := fun r => S.P0 r ∨ ∃ e, r = mkRule (fun H T => H (S.aux (S.t e)) ∧ S.R e H T) (S.Hd e)

theorem orig_eq : S.orig = Union S.P0 (family (fun e H T => S.N e H T ∧ S.R e H T) S.Hd) := rfl

theorem unfolded_eq :
    S.unfolded = Union S.P0 (family (fun e H T => S.dfn (S.aux (S.t e)) H T ∧ S.R e H T) S.Hd) := rfl

theorem folded_eq : S.folded = Union S.P0 (family (fun e H T => H (S.aux (S.t e)) ∧ S.R e H T) S.Hd) := rfl

def auxRules : Prog α := family S.N fun e H _ => H (S.aux (S.t e))

theorem models_auxRules {H T : Interp α} :
    Models S.auxRules H T ↔ ∀ e, (S.N e H T → H (S.aux (S.t e))) ∧ (S.N e T T → T (S.aux (S.t e))) :=
  models_family

theorem defs_rules (h : S.WF) : SEq (S.defs h).rules S.auxRules := by
  intro H T
  rw [models_defs_rules, models_auxRules]
  constructor
  · exact fun hd e => ⟨fun hn => (hd _ ⟨_, rfl⟩).1 ⟨e, rfl, hn⟩, fun hn => (hd _ ⟨_, rfl⟩).2 ⟨e, rfl, hn⟩⟩
  · rintro hr _ ⟨k, rfl⟩
    exact ⟨by rintro ⟨e, he, hn⟩; exact he ▸ (hr e).1 hn, by rintro ⟨e, he, hn⟩; exact he ▸ (hr e).2 hn⟩

theorem seq_split (h : S.WF) {Q : Prog α} : SEq (Union Q S.auxRules) (Union Q (S.defs h).rules) :=
  (SEq.refl _).union (S.defs_rules h).symm

theorem seq_unfolded (hg : S.Glue) : SEq S.orig S.unfolded := by
  intro H T
  -- an instance of the definition at `e` comes from some `e'` with the same interface value: glue `e'` and `e`
  have key : ∀ W, (∀ e, S.N e W T ∧ S.R e W T → S.Hd e W T) ↔
      ∀ e, S.dfn (S.aux (S.t e)) W T ∧ S.R e W T → S.Hd e W T := by
    refine fun W => ⟨?_, fun h e hb => h e ⟨⟨e, rfl, hb.1⟩, hb.2⟩⟩
    rintro h e ⟨⟨e', he', hn⟩, hr⟩
    obtain ⟨e'', h1, h2, h3⟩ := hg e e' (S.aux_inj _ _ he').symm
    exact (h3 W T).mp (h e'' ⟨(h1 W T).mpr hn, (h2 W T).mpr hr⟩)
  rw [orig_eq, unfolded_eq, models_union, models_union, models_family, models_family]
  simp only [mkRule, forall_and, key]

theorem orig_indep (h : S.WF) : ∀ r, S.orig r → Indep (S.defs h).A r := by
  rintro r (hr | ⟨e, rfl⟩)
  · exact h.p0 r hr
  · exact indep_mkRule (indep_and (h.n e) (h.r e)) (h.hd e)

theorem unfolded_indep (h : S.WF) : ∀ r, S.unfolded r → Indep (S.defs h).A r := by
  rintro r (hr | ⟨e, rfl⟩)
  · exact h.p0 r hr
  · exact indep_mkRule (indep_and ((S.defs h).indep _) (h.r e)) (h.hd e)

theorem fold_at (h : S.WF) (e : E) :
    Fold (S.defs h) (mkRule (fun H T => S.dfn (S.aux (S.t e)) H T ∧ S.R e H T) (S.Hd e))
      (mkRule (fun H T => H (S.aux (S.t e)) ∧ S.R e H T) (S.Hd e)) :=
  ⟨S.aux (S.t e), S.R e, S.Hd e, ⟨_, rfl⟩, h.r e, h.hd e, rfl, rfl⟩

theorem folding (h : S.WF) : Folding (S.defs h) S.unfolded S.folded where
  fwd := by
    rintro r (hr | ⟨e, rfl⟩)
    · exact .inl ⟨.inl hr, h.p0 r hr⟩
    · exact .inr ⟨_, .inr ⟨e, rfl⟩, S.fold_at h e⟩
  bwd := by
    rintro r (hr | ⟨e, rfl⟩)
    · exact .inl ⟨.inl hr, h.p0 r hr⟩
    · exact .inr ⟨_, .inr ⟨e, rfl⟩, S.fold_at h e⟩

theorem dfn_pers (h : S.WF) : ∀ a H T, Sub H T → (S.defs h).dfn a H T → (S.defs h).dfn a T T := by
  rintro a H T hs ⟨e, ha, hn⟩
  exact ⟨e, ha, h.pers e H T hs hn⟩

theorem fold_existing (h : S.WF) (hg : S.Glue) (T : Interp α) :
    Stable (Union S.orig (S.defs h).rules) T ↔ Stable (Union S.folded (S.defs h).rules) T :=
  (((S.seq_unfolded hg).union (SEq.refl _)).stable T).trans (fold_stable (S.unfolded_indep h) (S.folding h) T)

theorem split_sound (h : S.WF) (hg : S.Glue) (T : Interp α) (hT : Stable S.orig T) :
    Stable (Union S.folded (S.defs h).rules) (ext (S.defs h) T) :=
  (S.fold_existing h hg _).mp (def_ext_sound (S.defs h) (S.orig_indep h) hT)

theorem split_complete (h : S.WF) (hg : S.Glue) (T' : Interp α)
    (hT' : Stable (Union S.folded (S.defs h).rules) T') :
    ∃ T, Stable S.orig T ∧ ∀ a, T' a ↔ ext (S.defs h) T a :=
  ⟨_, def_ext_complete (S.defs h) (S.orig_indep h) (S.dfn_pers h) ((S.fold_existing h hg T').mpr hT')⟩

theorem sound_of_seq (h : S.WF) (hg : S.Glue) {A B : Prog α} (hA : SEq A S.orig) (hB : SEq B (Union S.folded S.auxRules))
    {T : Interp α} (hT : Stable A T) : Stable B (ext (S.defs h) T) :=
  ((hB.trans (S.seq_split h)).stable _).mpr (S.split_sound h hg T ((hA.stable T).mp hT))

theorem complete_of_seq (h : S.WF) (hg : S.Glue) {A B : Prog α} (hA : SEq A S.orig) (hB : SEq B (Union S.folded S.auxRules))
    {T' : Interp α} (hT' : Stable B T') : ∃ T, Stable A T ∧ ∀ a, T' a ↔ ext (S.defs h) T a :=
  let ⟨T, hT, hext⟩ := S.split_complete h hg T' (((hB.trans (S.seq_split h)).stable _).mp hT')
  ⟨T, (hA.stable T).mpr hT, hext⟩

theorem fold_of_seq (h : S.WF) (hg : S.Glue) {A B : Prog α} (hA : SEq A (Union S.orig S.auxRules))
    (hB : SEq B (Union S.folded S.auxRules)) (T : Interp α) : Stable A T ↔ Stable B T :=
  ((hA.trans (S.seq_split h)).stable T).trans
    ((S.fold_existing h hg T).trans ((hB.trans (S.seq_split h)).stable T).symm)

variable {ι E' : Type} (S : SplitData α (ι × E') K)

def place (i : ι) : SplitData α E' K :=
  { S with N := fun e => S.N (i, e), R := fun e => S.R (i, e), Hd := fun e => S.Hd (i, e), t := fun e => S.t (i, e) }

/-- Glue at each place re-assembles environments of that place.  Across places one thing more is needed: every instance
of the moved part at place `j` is, with the same interface value, an instance at place `i` (`hcross`); it is then glued
to the rest at place `i` there. -/
theorem glue_of_places (hplace : ∀ i, (S.place i).Glue)
    (hcross : ∀ i j e', ∃ ec, S.t (i, ec) = S.t (j, e') ∧ ∀ H T, S.N (i, ec) H T ↔ S.N (j, e') H T) : S.Glue := by
  rintro ⟨i, e⟩ ⟨j, e'⟩ ht
  obtain ⟨ec, htc, hN⟩ := hcross i j e'
  obtain ⟨e'', h1, h2, h3⟩ := hplace i e ec (htc.trans ht)
  exact ⟨(i, e''), fun H T => (h1 H T).trans (hN H T), h2, h3⟩

/-- every `(h i).p0` says what `hp0` says; it is asked on its own because `ι` may be empty -/
theorem wf_of_places (hp0 : ∀ r, S.P0 r → Indep S.A r) (h : ∀ i, (S.place i).WF) : S.WF where
  p0 := hp0
  n := fun ie => (h ie.1).n ie.2
  r := fun ie => (h ie.1).r ie.2
  hd := fun ie => (h ie.1).hd ie.2
  pers := fun ie => (h ie.1).pers ie.2

theorem models_auxRules_places {H T : Interp α} : Models S.auxRules H T ↔ ∀ i, Models (S.place i).auxRules H T :=
  models_family_prod

end SplitData
end HT
