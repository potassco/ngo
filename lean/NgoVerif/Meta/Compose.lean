/-!
# M10 — composing the per-pass guarantees along the pipeline (C01, C02, C06)

`AS P I m` : `m` is an answer set (with its cost, if `Model` carries one) of program `P` joined with instance `I`.
`obs` is what the property observes: the restriction to the output predicates (C01), the same paired with the cost
vector (C02), or the restriction to the source vocabulary (C06).
-/
namespace Compose
variable {Prog Inst Model Obs : Type}

def EquivOn (AS : Prog → Inst → Model → Prop) (obs : Model → Obs) (P Q : Prog) : Prop :=
  ∀ I o, (∃ m, AS P I m ∧ obs m = o) ↔ (∃ m, AS Q I m ∧ obs m = o)

theorem EquivOn.refl (AS : Prog → Inst → Model → Prop) (obs : Model → Obs) (P : Prog) : EquivOn AS obs P P :=
  fun _ _ => Iff.rfl

theorem EquivOn.symm {AS : Prog → Inst → Model → Prop} {obs : Model → Obs} {P Q : Prog}
    (h : EquivOn AS obs P Q) : EquivOn AS obs Q P := fun I o => (h I o).symm

theorem EquivOn.trans {AS : Prog → Inst → Model → Prop} {obs : Model → Obs} {P Q R : Prog}
    (h1 : EquivOn AS obs P Q) (h2 : EquivOn AS obs Q R) : EquivOn AS obs P R :=
  fun I o => (h1 I o).trans (h2 I o)

/-- a guarantee on a finer observation (e.g. IN ∪ OUT, or the whole source vocabulary) gives the coarser one (OUT) -/
theorem EquivOn.coarsen {Obs' : Type} {AS : Prog → Inst → Model → Prop} {obs : Model → Obs} (f : Obs → Obs')
    {P Q : Prog} (h : EquivOn AS obs P Q) : EquivOn AS (f ∘ obs) P Q := by
  intro I o'
  -- the coarser observations of a program are the images under `f` of the finer ones
  have image : ∀ P, (∃ m, AS P I m ∧ (f ∘ obs) m = o') ↔ ∃ o, (∃ m, AS P I m ∧ obs m = o) ∧ f o = o' :=
    fun P => ⟨fun ⟨m, hm, e⟩ => ⟨obs m, ⟨m, hm, rfl⟩, e⟩, fun ⟨_, ⟨m, hm, rfl⟩, e⟩ => ⟨m, hm, e⟩⟩
  exact (image P).trans ((exists_congr fun o => and_congr_left' (h I o)).trans (image Q).symm)

/-- a pipeline: the programs after each pass application -/
def Chain (R : Prog → Prog → Prop) : Prog → List Prog → Prop
  | _, [] => True
  | P, Q :: rest => R P Q ∧ Chain R Q rest

theorem chain_equiv {AS : Prog → Inst → Model → Prop} {obs : Model → Obs} :
    ∀ (P : Prog) (steps : List Prog), Chain (EquivOn AS obs) P steps →
      EquivOn AS obs P ((P :: steps).getLast (List.cons_ne_nil _ _))
  | P, [], _ => EquivOn.refl AS obs P
  | _, Q :: rest, h => h.1.trans (chain_equiv Q rest h.2)

/-- satisfiability is the coarsest observation -/
theorem EquivOn.sat {AS : Prog → Inst → Model → Prop} {obs : Model → Obs} {P Q : Prog} (h : EquivOn AS obs P Q)
    (I : Inst) : (∃ m, AS P I m) ↔ (∃ m, AS Q I m) := by
  simpa only [Function.comp, and_true] using h.coarsen (fun _ => ()) I ()

def ConsExt (AS : Prog → Inst → Model → Prop) (proj : Model → Model) (P Q : Prog) : Prop :=
  ∀ I, (∀ m, AS Q I m → AS P I (proj m)) ∧
       (∀ m, AS P I m → ∃ m', AS Q I m' ∧ proj m' = m ∧ ∀ m'', AS Q I m'' → proj m'' = m → m'' = m')

theorem ConsExt.trans {AS : Prog → Inst → Model → Prop} {p1 p2 : Model → Model} {P Q R : Prog}
    (h1 : ConsExt AS p1 P Q) (h2 : ConsExt AS p2 Q R) : ConsExt AS (p1 ∘ p2) P R := by
  intro I
  obtain ⟨a1, b1⟩ := h1 I
  obtain ⟨a2, b2⟩ := h2 I
  refine ⟨fun m hm => a1 _ (a2 m hm), fun m hm => ?_⟩
  obtain ⟨m1, hm1, rfl, u1⟩ := b1 m hm
  obtain ⟨m2, hm2, rfl, u2⟩ := b2 m1 hm1
  exact ⟨m2, hm2, rfl, fun m'' hm'' he => u2 m'' hm'' (u1 _ (a2 m'' hm'') he)⟩

/-- the same number of answer sets: `proj` is injective on them and onto -/
theorem ConsExt.injective {AS : Prog → Inst → Model → Prop} {proj : Model → Model} {P Q : Prog}
    (h : ConsExt AS proj P Q) (I : Inst) (m m' : Model) (hm : AS Q I m) (hm' : AS Q I m') (he : proj m = proj m') :
    m = m' := by
  obtain ⟨a, b⟩ := h I
  obtain ⟨m0, _, _, u⟩ := b (proj m) (a m hm)
  rw [u m hm rfl, u m' hm' he.symm]

theorem ConsExt.equivOn {AS : Prog → Inst → Model → Prop} {proj : Model → Model} {obs : Model → Obs} {P Q : Prog}
    (h : ConsExt AS proj P Q) (hobs : ∀ m, obs (proj m) = obs m) : EquivOn AS obs P Q := by
  intro I o
  obtain ⟨a, b⟩ := h I
  constructor
  · rintro ⟨m, hm, rfl⟩
    obtain ⟨m', hm', rfl, _⟩ := b m hm
    exact ⟨m', hm', (hobs m').symm⟩
  · rintro ⟨m, hm, rfl⟩
    exact ⟨proj m, a m hm, hobs m⟩

end Compose
