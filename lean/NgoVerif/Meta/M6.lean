/-!
Supportedness (M5 of DESIGN §3) and the deletion of a positive body literal `b` standing next to an atom `p` when the body of
every rule that derives `p` entails `b` (M6⁺; `cleanup`), for programs whose bodies are monotone in `H` for fixed `T` (`Mono`).
A rule here is a head, kept as data so that `Derives` can inspect it, and a body relation, not one relation on HT pairs as in
`Meta/Basic.lean`; that is why `Interp`, `Sub`, `SSub`, `Models`, `Stable` are declared again in this namespace.
The `[DecidableEq α]` in the statements of `remove_atom_model`, `supported` and the lemmas that call them is not needed by
the proofs: `a ≠ p` is a proposition, nothing is decided.
-/
namespace M6
variable {α : Type}
abbrev Interp (α : Type) := α → Prop
def Sub (H T : Interp α) : Prop := ∀ a, H a → T a
def SSub (H T : Interp α) : Prop := Sub H T ∧ ∃ a, T a ∧ ¬ H a

inductive GHead (α : Type) where
  | atom (a : α) | choice (a : α) | falsum

structure GRule (α : Type) where
  head : GHead α
  body : Interp α → Interp α → Prop

def headSat : GHead α → Interp α → Interp α → Prop
  | .atom a, H, _ => H a
  | .choice a, H, T => H a ∨ ¬ T a
  | .falsum, _, _ => False

def GRule.sat (r : GRule α) (H T : Interp α) : Prop :=
  (r.body H T → headSat r.head H T) ∧ (r.body T T → headSat r.head T T)

abbrev Prog (α : Type) := GRule α → Prop
def Models (P : Prog α) (H T : Interp α) : Prop := ∀ r, P r → r.sat H T
def Stable (P : Prog α) (T : Interp α) : Prop := Models P T T ∧ ∀ H, SSub H T → ¬ Models P H T

def Mono (P : Prog α) : Prop :=
  ∀ r, P r → ∀ H₁ H₂ T, Sub H₁ H₂ → Sub H₂ T → r.body H₁ T → r.body H₂ T

def Derives (r : GRule α) (p : α) : Prop := r.head = .atom p ∨ r.head = .choice p

/-- `𝓗 = {H}` for deleting an underivable atom, all models below `T` for the least one -/
theorem models_below {P : Prog α} (hmono : Mono P) {X T : Interp α} (𝓗 : Interp α → Prop) (hne : ∃ H, 𝓗 H)
    (hsub : ∀ H, 𝓗 H → Sub X H ∧ Sub H T) (hM : ∀ H, 𝓗 H → Models P H T)
    (hX : ∀ a, (∀ H, 𝓗 H → H a ∧ ∃ r, P r ∧ Derives r a ∧ r.body H T) → X a) : Models P X T := by
  obtain ⟨H₀, h₀⟩ := hne
  intro r hr
  refine ⟨fun hb => ?_, (hM H₀ h₀ r hr).2⟩
  have key : ∀ H, 𝓗 H → r.body H T ∧ headSat r.head H T := fun H hH =>
    have hb' := hmono r hr _ _ _ (hsub H hH).1 (hsub H hH).2 hb
    ⟨hb', (hM H hH r hr).1 hb'⟩
  cases hhd : r.head <;> rw [hhd] at key
  case atom a => exact hX a fun H hH => ⟨(key H hH).2, r, hr, Or.inl hhd, (key H hH).1⟩
  case choice a =>
    by_cases hTa : T a
    · exact Or.inl (hX a fun H hH => ⟨(key H hH).2.resolve_right (not_not_intro hTa), r, hr, Or.inr hhd, (key H hH).1⟩)
    · exact Or.inr hTa
  case falsum => exact (key H₀ h₀).2

theorem remove_atom_model [DecidableEq α] {P : Prog α} (hmono : Mono P) {H T : Interp α} (hHT : Sub H T)
    (hM : Models P H T) (p : α)
    (hblock : ∀ r, P r → Derives r p → ¬ r.body H T) :
    Models P (fun a => H a ∧ a ≠ p) T := by
  refine models_below hmono (· = H) ⟨H, rfl⟩ ?_ ?_ fun a h => ?_
  · rintro _ rfl; exact ⟨fun _ hx => hx.1, hHT⟩
  · rintro _ rfl; exact hM
  · -- `a` is in `H` and some rule derives it at `(H, T)`; no rule derives `p` there
    obtain ⟨ha, r, hr, hd, hb⟩ := h H rfl
    exact ⟨ha, fun e => hblock r hr (e ▸ hd) hb⟩

theorem Stable.least {P : Prog α} {H T : Interp α} (hS : Stable P T) (hsub : Sub H T) (hM : Models P H T) :
    Sub T H :=
  fun a ha => Classical.byContradiction fun hn => hS.2 H ⟨hsub, a, ha, hn⟩ hM

def Supp (P : Prog α) (X T : Interp α) : Prop := ∀ p, X p → ∃ r, P r ∧ Derives r p ∧ r.body X T

theorem supp_of_minimal [DecidableEq α] {P : Prog α} (hmono : Mono P) {X T : Interp α} (hXT : Sub X T) (hM : Models P X T)
    (hmin : ∀ p, X p → ¬ Models P (fun a => X a ∧ a ≠ p) T) : Supp P X T :=
  fun p hp => Classical.byContradiction fun hno =>
    hmin p hp (remove_atom_model hmono hXT hM p fun r hr hd hb => hno ⟨r, hr, hd, hb⟩)

theorem supported [DecidableEq α] {P : Prog α} (hmono : Mono P) {T : Interp α} (hS : Stable P T) (p : α) (hp : T p) :
    ∃ r, P r ∧ Derives r p ∧ r.body T T :=
  supp_of_minimal hmono (fun _ h => h) hS.1 (fun p hp hM => (hS.least (fun _ h => h.1) hM p hp).2 rfl) p hp

def least (P : Prog α) (T : Interp α) : Interp α := fun a => ∀ H, Sub H T → Models P H T → H a

theorem least_sub {P : Prog α} {T : Interp α} (hT : Models P T T) : Sub (least P T) T := fun _ h => h T (fun _ x => x) hT

theorem least_le {P : Prog α} {H T : Interp α} (hHT : Sub H T) (hM : Models P H T) : Sub (least P T) H :=
  fun _ h => h H hHT hM

theorem least_model {P : Prog α} (hmono : Mono P) {T : Interp α} (hT : Models P T T) :
    Models P (least P T) T :=
  models_below hmono (fun H => Sub H T ∧ Models P H T) ⟨T, fun _ x => x, hT⟩
    (fun _ hH => ⟨least_le hH.1 hH.2, hH.1⟩) (fun _ hH => hH.2) fun _ h H hHT hM => (h H ⟨hHT, hM⟩).1

theorem supp_least [DecidableEq α] {P : Prog α} (hmono : Mono P) {T : Interp α} (hT : Models P T T) : Supp P (least P T) T :=
  supp_of_minimal hmono (least_sub hT) (least_model hmono hT) fun _ hp hM =>
    (hp _ (fun a h => least_sub hT a h.1) hM).2 rfl

theorem remove_implied_pos [DecidableEq α] {P : Prog α} (hmono : Mono P) {p b : α} {rest : Interp α → Interp α → Prop}
    {hd : GHead α} {r₀ : GRule α} (hr₀ : r₀ = ⟨hd, fun H T => H p ∧ H b ∧ rest H T⟩) (hin : P r₀)
    (himp : ∀ r, P r → Derives r p → ∀ H T, r.body H T → H b)
    (T : Interp α) :
    let r₀' : GRule α := ⟨hd, fun H T => H p ∧ rest H T⟩
    let P' : Prog α := fun r => (P r ∧ r ≠ r₀) ∨ r = r₀'
    Stable P T ↔ Stable P' T := by
  intro r₀' P'
  subst hr₀
  have longer : ∀ H, Models P' H T → Models P H T := by
    intro H hM r hr
    by_cases e : r = ⟨hd, fun H T => H p ∧ H b ∧ rest H T⟩
    · have h' := hM r₀' (.inr rfl)
      exact e ▸ ⟨fun hb => h'.1 ⟨hb.1, hb.2.2⟩, fun hb => h'.2 ⟨hb.1, hb.2.2⟩⟩
    · exact hM r (.inl ⟨hr, e⟩)
  -- in a model `X` where `p` is supported `b` holds with it, so the shortened rule holds where the original one does
  have half : ∀ X, Supp P X T → Models P X T → X p ∧ rest X T → headSat hd X T :=
    fun X hsupp hM hb =>
      have ⟨ρ, hρ, hder, hbody⟩ := hsupp p hb.1
      (hM _ hin).1 ⟨hb.1, himp ρ hρ hder X T hbody, hb.2⟩
  constructor
  · intro hS
    have h := half T (supported hmono hS) hS.1
    exact ⟨fun r hr => hr.elim (fun hr => hS.1 r hr.1) fun e => e ▸ ⟨h, h⟩, fun H hH hM => hS.2 H hH (longer H hM)⟩
  · intro hS
    have hMT := longer T hS.1
    -- the least model of the source below `T` is a model of the shortened program, so it is `T`
    have hTL : Sub T (least P T) := hS.least (least_sub hMT) fun r hr => by
      rcases hr with hr | rfl
      · exact least_model hmono hMT r hr.1
      · exact ⟨half _ (supp_least hmono hMT) (least_model hmono hMT), (hS.1 r₀' (.inr rfl)).2⟩
    exact ⟨hMT, fun H ⟨hHT, c, hc, hnc⟩ hM => hnc (least_le hHT hM c (hTL c hc))⟩
end M6
