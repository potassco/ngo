/-!
# Comparison chains on a miniature AST (C05)

Splitting a comparison chain `t₀ o₁ t₁ o₂ t₂ …` into binary comparisons (`ngo.normalize.normalize_operators`) keeps the
denotation of a body whose negated chains have exactly one comparison; a negated chain of two or more is not equivalent
to its split.  This is worked out on a self-contained miniature AST (integer terms, atoms, comparison literals with a
sign) with its own here-and-there satisfaction; `C05_expand_comparisons_partial` and
`C05_expand_comparisons_counterexample` are stated on it.  `Proofs/C05sem.lean` does the same in full, for the model
function `normalizeOperators` on the typed AST.
-/
namespace Br
inductive Term where
  | var (n : String) | num (n : Int) | add (l r : Term)
  deriving DecidableEq, Repr
inductive Op where | lt | le | eq | ne | gt | ge
  deriving DecidableEq, Repr
inductive Sign where | pos | neg | dneg
  deriving DecidableEq, Repr
structure Atom where
  name : String
  args : List Term
  deriving DecidableEq, Repr
inductive Lit where
  | atom (s : Sign) (a : Atom)
  | cmp (s : Sign) (t : Term) (guards : List (Op × Term))
  deriving Repr

abbrev Env := String → Int
def Term.eval (e : Env) : Term → Int
  | .var n => e n | .num n => n | .add l r => l.eval e + r.eval e
def Op.holds : Op → Int → Int → Prop
  | .lt, a, b => a < b | .le, a, b => a ≤ b | .eq, a, b => a = b
  | .ne, a, b => a ≠ b | .gt, a, b => a > b | .ge, a, b => a ≥ b
def chainHolds (e : Env) : Term → List (Op × Term) → Prop
  | _, [] => True
  | t, (o, u) :: gs => o.holds (t.eval e) (u.eval e) ∧ chainHolds e u gs

structure GAtom where
  name : String
  args : List Int
abbrev Interp := GAtom → Prop
def Atom.ground (e : Env) (a : Atom) : GAtom := ⟨a.name, a.args.map (Term.eval e)⟩

def Lit.sat (e : Env) (H T : Interp) : Lit → Prop
  | .atom .pos a => H (a.ground e)
  | .atom .neg a => ¬ T (a.ground e)
  | .atom .dneg a => T (a.ground e)
  | .cmp .pos t gs => chainHolds e t gs
  | .cmp .neg t gs => ¬ chainHolds e t gs
  | .cmp .dneg t gs => chainHolds e t gs
def bodySat (e : Env) (H T : Interp) (b : List Lit) : Prop := ∀ l ∈ b, l.sat e H T

/-- model of ngo.normalize.normalize_operators on plain literals -/
def splitChain (s : Sign) : Term → List (Op × Term) → List Lit
  | _, [] => []
  | t, (o, u) :: gs => Lit.cmp s t [(o, u)] :: splitChain s u gs
def expandLit : Lit → List Lit
  | .cmp s t gs => splitChain s t gs
  | l => [l]
def expandBody (b : List Lit) : List Lit := b.flatMap expandLit

theorem cmp_sat {s : Sign} (hs : s ≠ .neg) {e : Env} {H T : Interp} {t : Term} {gs : List (Op × Term)} :
    (Lit.cmp s t gs).sat e H T ↔ chainHolds e t gs := by
  cases s
  · rfl
  · exact absurd rfl hs
  · rfl

theorem splitChain_sat {e : Env} {H T : Interp} {s : Sign} (hs : s ≠ .neg) {t : Term} {gs : List (Op × Term)} :
    (∀ l ∈ splitChain s t gs, l.sat e H T) ↔ chainHolds e t gs := by
  induction gs generalizing t with
  | nil => simp [splitChain, chainHolds]
  | cons g gs ih => simp only [splitChain, List.mem_cons, forall_eq_or_imp, cmp_sat hs, chainHolds, and_true, ih]

/-- for a negated chain of two or more comparisons the split is not equivalent (defect D8): `not 1 < 2 < 0` holds,
`not 1 < 2, not 2 < 0` does not -/
theorem splitChain_neg_counterexample :
    ∃ (e : Env) (H T : Interp) (t : Term) (gs : List (Op × Term)),
      ¬ ((∀ l ∈ splitChain .neg t gs, l.sat e H T) ↔ ¬ chainHolds e t gs) := by
  refine ⟨fun _ => 0, fun _ => False, fun _ => False, .num 1, [(.lt, .num 2), (.lt, .num 0)], ?_⟩
  simp [splitChain, chainHolds, Lit.sat, Op.holds, Term.eval]

def NoNegChain : Lit → Prop
  | .cmp .pos _ _ => True
  | .cmp .dneg _ _ => True
  | .cmp .neg _ gs => gs.length ≤ 1
  | _ => True

/-- the hypothesis also rules out a negated comparison without a guard, which is false while its expansion is empty -/
theorem expandLit_sat {e : Env} {H T : Interp} {l : Lit} (hl : ∀ t gs, l = .cmp .neg t gs → gs.length = 1) :
    (∀ x ∈ expandLit l, x.sat e H T) ↔ l.sat e H T := by
  match l with
  | .atom s a => simp only [expandLit, List.mem_singleton, forall_eq]
  | .cmp s t gs =>
    by_cases hs : s = .neg
    · subst hs
      obtain ⟨g, rfl⟩ := List.length_eq_one_iff.mp (hl t gs rfl)
      simp only [expandLit, splitChain, List.mem_singleton, forall_eq]
    · exact (splitChain_sat hs).trans (cmp_sat hs).symm

theorem expandBody_sat {e : Env} {H T : Interp} {b : List Lit}
    (hb : ∀ l ∈ b, ∀ t gs, l = .cmp .neg t gs → gs.length = 1) :
    bodySat e H T (expandBody b) ↔ bodySat e H T b := by
  rw [bodySat, expandBody, List.forall_mem_flatMap]
  exact forall₂_congr fun l hl => expandLit_sat (hb l hl)

end Br
