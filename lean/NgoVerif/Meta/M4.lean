import NgoVerif.Meta.Basic
/-! Definitional extension by rules that may use the defined atoms positively (M4 of DESIGN §3, direction ⇒; the chain and
`next`/`min`/`max` predicates are defined so): a stable model is extended by the derivable atoms (`Der`) -/
namespace HT
variable {α : Type}

structure RDef (α : Type) where
  hd : α
  pre : α → Prop                       -- positive aux premises
  cond : Interp α → Interp α → Prop     -- the rest of the body, independent of the aux atoms

structure RDefs (α : Type) where
  A : α → Prop
  rules : RDef α → Prop
  hdA : ∀ d, rules d → A d.hd
  preA : ∀ d, rules d → ∀ a, d.pre a → A a
  indep : ∀ d, rules d → Indep A d.cond

inductive Der (D : RDefs α) (T : Interp α) : α → Prop
  | step (d : RDef α) : D.rules d → d.cond T T → (∀ a, d.pre a → Der D T a) → Der D T d.hd

def RDefs.prog (D : RDefs α) : Prog α :=
  fun r => ∃ d, D.rules d ∧
    r = fun H T => ((∀ a, d.pre a → H a) ∧ d.cond H T → H d.hd) ∧ ((∀ a, d.pre a → T a) ∧ d.cond T T → T d.hd)

def rext (D : RDefs α) (T : Interp α) : Interp α :=
  fun a => (¬ D.A a ∧ T a) ∨ (D.A a ∧ Der D T a)

theorem rext_on {D : RDefs α} {T : Interp α} {a : α} (hA : D.A a) : rext D T a ↔ Der D T a :=
  ⟨fun h => h.elim (fun h => absurd hA h.1) (·.2), fun h => .inr ⟨hA, h⟩⟩

theorem rdef_ext_sound {P : Prog α} (D : RDefs α) (hP : ∀ r, P r → Indep D.A r)
    {T : Interp α} (hT : Stable P T) :
    Stable (Union P D.prog) (rext D T) := by
  have agree := agreeOff_glue D.A T (Der D T)
  refine stable_union_of_least hP hT agree ?_ ?_
  · rintro _ ⟨d, hd, rfl⟩
    have h : (∀ a, d.pre a → rext D T a) ∧ d.cond (rext D T) (rext D T) → rext D T d.hd := fun h =>
      (rext_on (D.hdA d hd)).mpr <| .step d hd (((D.indep d hd).iff agree agree).mpr h.2) fun a ha =>
        (rext_on (D.preA d hd a ha)).mp (h.1 a ha)
    exact ⟨h, h⟩
  · intro H' _ hM ag a hA ha
    have hder : ∀ a, Der D T a → H' a := by
      intro a h
      induction h with
      | step d hd hc _ ih => exact (hM _ ⟨d, hd, rfl⟩).1 ⟨ih, ((D.indep d hd).iff ag agree.symm).mpr hc⟩
    exact hder a ((rext_on hA).mp ha)
end HT
