/-!
# The covering (immediate successor) relation of a finite, sorted domain — what `__next_…` must be (C20)

Core Lean only: `Model/Order.lean`, which the driver executable links, imports this file for `consecutive`.
-/
namespace Cover

def consecutive : List Int → List (Int × Int)
  | a :: b :: rest => (a, b) :: consecutive (b :: rest)
  | _ => []

theorem consecutive_eq_zip : ∀ l : List Int, consecutive l = l.zip l.tail
  | [] | [_] => rfl
  | a :: b :: rest => congrArg ((a, b) :: ·) (consecutive_eq_zip (b :: rest))

theorem mem_consecutive {l : List Int} {a b : Int} :
    (a, b) ∈ consecutive l ↔ ∃ i, l[i]? = some a ∧ l[i + 1]? = some b := by
  simp only [consecutive_eq_zip, List.mem_iff_getElem?, List.getElem?_zip_eq_some, List.getElem?_tail]

theorem getElem?_lt_iff {l : List Int} (hs : l.Pairwise (· < ·)) {i j : Nat} {x y : Int} (hx : l[i]? = some x)
    (hy : l[j]? = some y) : x < y ↔ i < j := by
  obtain ⟨hi, rfl⟩ := List.getElem?_eq_some_iff.mp hx
  obtain ⟨hj, rfl⟩ := List.getElem?_eq_some_iff.mp hy
  have mono := List.pairwise_iff_getElem.mp hs
  refine ⟨fun h => Nat.lt_of_not_le fun hji => ?_, mono i j hi hj⟩
  rcases Nat.eq_or_lt_of_le hji with rfl | hlt
  · exact Int.lt_irrefl _ h
  · exact Int.lt_asymm h (mono j i hj hi hlt)

theorem consecutive_cover {l : List Int} (hs : l.Pairwise (· < ·)) {a b : Int} :
    (a, b) ∈ consecutive l ↔ a ∈ l ∧ b ∈ l ∧ a < b ∧ ∀ c ∈ l, ¬ (a < c ∧ c < b) := by
  -- a strictly sorted list embeds its indices (`getElem?_lt_iff`), and the covering pairs of indices are the `(i, i + 1)`
  rw [mem_consecutive]
  simp only [List.mem_iff_getElem?]
  constructor
  · rintro ⟨i, ha, hb⟩
    refine ⟨⟨i, ha⟩, ⟨_, hb⟩, (getElem?_lt_iff hs ha hb).mpr (Nat.lt_succ_self i), fun c ⟨k, hc⟩ ⟨h1, h2⟩ => ?_⟩
    exact Nat.lt_irrefl _ (Nat.lt_of_lt_of_le ((getElem?_lt_iff hs ha hc).mp h1)
      (Nat.le_of_lt_succ ((getElem?_lt_iff hs hc hb).mp h2)))
  · rintro ⟨⟨i, ha⟩, ⟨j, hb⟩, hab, hno⟩
    have hij : i + 1 ≤ j := (getElem?_lt_iff hs ha hb).mp hab
    -- the element after `a` is not strictly between `a` and `b`, so it is `b`
    obtain ⟨c, hc⟩ : ∃ c, l[i + 1]? = some c :=
      ⟨_, List.getElem?_eq_getElem (Nat.lt_of_le_of_lt hij (List.getElem?_eq_some_iff.mp hb).1)⟩
    have hnj : ¬ i + 1 < j := fun h =>
      hno c ⟨_, hc⟩ ⟨(getElem?_lt_iff hs ha hc).mpr (Nat.lt_succ_self i), (getElem?_lt_iff hs hc hb).mpr h⟩
    obtain rfl : i + 1 = j := Nat.le_antisymm hij (Nat.le_of_not_lt hnj)
    exact ⟨i, ha, hb⟩

variable {α : Type} {R : α → α → Prop} {l : List α} {m : α}

theorem head?_rel (refl : ∀ a, R a a) (hs : l.Pairwise R) (h : l.head? = some m) : m ∈ l ∧ ∀ c ∈ l, R m c := by
  obtain ⟨ys, rfl⟩ := List.head?_eq_some_iff.mp h
  exact ⟨List.mem_cons_self, List.forall_mem_cons.mpr ⟨refl m, fun c => List.rel_of_pairwise_cons hs⟩⟩

theorem getLast?_rel (refl : ∀ a, R a a) (hs : l.Pairwise R) (h : l.getLast? = some m) :
    m ∈ l ∧ ∀ c ∈ l, R c m := by
  obtain ⟨ys, rfl⟩ := List.getLast?_eq_some_iff.mp h
  refine ⟨by simp, fun c hc => ?_⟩
  rcases List.mem_append.mp hc with hc | hc
  · exact (List.pairwise_append.mp hs).2.2 c hc m (List.mem_singleton_self m)
  · exact List.mem_singleton.mp hc ▸ refl m

end Cover
