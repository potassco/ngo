import NgoVerif.Syntax
/-!
# Structural induction over the syntax

`Term` and `Atom` are nested through `List`, so a fact about terms needs its twin about lists of terms, and one about
atoms those about literals, lists of literals and the two kinds of aggregate elements: the family is proved as one
conjunction by `apply term_induct` or `apply atom_induct`, one case per constructor, and then projected.  The principles
are those Lean derives from a function that recurses through the whole family (`toSexp` is one).  A `mutual` block of
theorems says the same, but each block compiles a recursion over the nested type of its own, which is slow to check.
-/
namespace NgoVerif

theorem term_induct {pt : Term → Prop} {pts : List Term → Prop}
    (var : ∀ n, pt (.var n)) (sym : ∀ s, pt (.sym s)) (un : ∀ op a, pt a → pt (.un op a))
    (bin : ∀ op l r, pt l → pt r → pt (.bin op l r)) (ival : ∀ l r, pt l → pt r → pt (.ival l r))
    (fn : ∀ name args ext, pts args → pt (.fn name args ext)) (pool : ∀ args, pts args → pt (.pool args))
    (nil : pts []) (cons : ∀ t ts, pt t → pts ts → pts (t :: ts)) : (∀ t, pt t) ∧ ∀ ts, pts ts :=
  Term.toSexp.mutual_induct pt pts var sym un bin ival fn pool nil cons

theorem atom_induct {pa : Atom → Prop} {pq : Lit → Prop} {pl : List Lit → Prop} {pb : List BAggElem → Prop}
    {pc : List CondLit → Prop}
    (sym : ∀ t, pa (.sym t)) (cmp : ∀ t gs, pa (.cmp t gs)) (bool : ∀ b, pa (.bool b)) (theory : ∀ x, pa (.theory x))
    (bagg : ∀ l c lg f es rg, pb es → pa (.bagg l c lg f es rg)) (agg : ∀ lg es rg, pc es → pa (.agg lg es rg))
    (lit : ∀ s a, pa a → pq (s, a)) (lits_nil : pl []) (lits_cons : ∀ s a ls, pq (s, a) → pl ls → pl ((s, a) :: ls))
    (belems_nil : pb []) (belems_cons : ∀ ts c es, pl c → pb es → pb ((ts, c) :: es))
    (celems_nil : pc []) (celems_cons : ∀ s a c es, pq (s, a) → pl c → pc es → pc (((s, a), c) :: es)) :
    (∀ a, pa a) ∧ (∀ l, pq l) ∧ (∀ ls, pl ls) ∧ (∀ es, pb es) ∧ ∀ es, pc es :=
  have h := Atom.toSexp.mutual_induct pa pc pl pq pb sym cmp bool bagg agg theory belems_nil belems_cons celems_nil
    (fun l c es => celems_cons l.1 l.2 c es) lits_nil (fun l ls => lits_cons l.1 l.2 ls) lit
  ⟨h.1, h.2.2.2.1, h.2.2.1, h.2.2.2.2, h.2.1⟩

end NgoVerif
