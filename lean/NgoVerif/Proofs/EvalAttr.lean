import Lean.Meta.Tactic.Simp.RegisterCommand

/-- the simp set of `Proofs/Eval.lean` -/
register_simp_attr ngo_eval
