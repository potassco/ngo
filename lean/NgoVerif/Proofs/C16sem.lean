import NgoVerif.Meta.Split
import NgoVerif.Sem.Program
import NgoVerif.Sem.Coincidence
import NgoVerif.Sem.Indep
/-!
# Projection's split, from syntax to stable models

`head :- body.` with `body` = `new` ∪ `rest` is replaced by `aux(V̄) :- new.` and `head :- rest, aux(V̄).`
The ground instances of these statements (under the here-and-there semantics of `Sem/*`) instantiate the ground-level
schema `Meta/Split.lean`; its side condition `Glue` follows from the *syntactic* condition "every variable of the moved
part that also occurs in the rest or in the head is among `V̄`" by the coincidence lemma.
-/
namespace NgoVerif.Proofs.C16sem
open NgoVerif.Sem
open HT (SEq family)

variable (P : PParams)

def instances (G : String → Prop) (head : Head) (body : List BLit) : HT.Prog GAtom :=
  fun r => ∃ e : Env, r = HT.mkRule (fun H T => bodySat P.toParams G e H T body) (fun H T => P.headSat G e H T head)

def auxAtomTerm (auxName : String) (vs : List String) : Term := .fn auxName (vs.map Term.var) false
def auxLit (auxName : String) (vs : List String) : Lit := (.pos, .sym (auxAtomTerm auxName vs))

structure Syn where
  head : Head
  new : List BLit
  rest : List BLit
  body : List BLit
  vs : List String
  auxName : String
  headVars : List String

structure Cond (G : String → Prop) (S : Syn) : Prop where
  parts : ∀ l, l ∈ S.body ↔ l ∈ S.new ∨ l ∈ S.rest
  share : ∀ v, v ∈ S.new.flatMap BLit.vars → (v ∈ S.rest.flatMap BLit.vars ∨ v ∈ S.headVars) → v ∈ S.vs
  freshNew : bodyAvoids (nameSig S.auxName) S.new = true
  freshRest : bodyAvoids (nameSig S.auxName) S.rest = true
  headVarsOk : ∀ e1 e2 : Env, (∀ v ∈ S.headVars, e1 v = e2 v) → ∀ H T, (P.headSat G e1 H T S.head ↔ P.headSat G e2 H T S.head)
  headIndep : ∀ e H T H' T', AgreeOffName (nameSig S.auxName) H H' → AgreeOffName (nameSig S.auxName) T T' →
    (P.headSat G e H T S.head ↔ P.headSat G e H' T' S.head)
  atomHead : ∀ e H T t a, groundAtom P.toParams e t = some a → (P.headSat G e H T (.lit (.pos, .sym t)) ↔ H a)
  aggPers : AggPersistent P.toParams

def splitData (G : String → Prop) (S : Syn) (P0 : HT.Prog GAtom) : HT.SplitData GAtom Env (List Sym) where
  P0 := P0
  N := fun e H T => bodySat P.toParams G e H T S.new
  R := fun e H T => bodySat P.toParams G e H T S.rest
  Hd := fun e H T => P.headSat G e H T S.head
  t := fun e => S.vs.map e
  aux := fun k => ⟨S.auxName, k⟩
  aux_inj := by intro k k' h; cases h; rfl

def splitProg (G : String → Prop) (S : Syn) (P0 : HT.Prog GAtom) : HT.Prog GAtom :=
  HT.Union (HT.Union P0 (instances P G S.head (S.rest ++ [.lit (auxLit S.auxName S.vs)])))
    (instances P G (.lit (auxLit S.auxName S.vs)) S.new)

def unfoldedProg (G : String → Prop) (S : Syn) (P0 : HT.Prog GAtom) : HT.Prog GAtom :=
  HT.Union (HT.Union P0 (instances P G S.head S.body)) (instances P G (.lit (auxLit S.auxName S.vs)) S.new)

def extend (G : String → Prop) (S : Syn) (T : Interp) : Interp :=
  fun a => (a.name ≠ S.auxName ∧ T a) ∨ (∃ e : Env, a = ⟨S.auxName, S.vs.map e⟩ ∧ bodySat P.toParams G e T T S.new)

section
variable {P} {G : String → Prop} {S : Syn} {P0 : HT.Prog GAtom}

/-- `Glue` from the syntax, with the two fields of `Cond` it rests on.  The glued environment is `e'` on the variables of
the moved part and `e` elsewhere; where the moved part overlaps the rest or the head the two agree, since such variables
are among `S.vs` (`share`). -/
theorem glue (share : ∀ v, v ∈ S.new.flatMap BLit.vars → (v ∈ S.rest.flatMap BLit.vars ∨ v ∈ S.headVars) → v ∈ S.vs)
    (headVarsOk : ∀ e1 e2 : Env, (∀ v ∈ S.headVars, e1 v = e2 v) → ∀ H T, (P.headSat G e1 H T S.head ↔ P.headSat G e2 H T S.head)) :
    (splitData P G S P0).Glue := by
  intro e e' ht
  have hp : ∀ v, (v ∈ S.rest.flatMap BLit.vars ∨ v ∈ S.headVars) → patch (S.new.flatMap BLit.vars) e' e v = e v :=
    fun v hv => patch_eq_right fun hn => List.map_inj_left.mp ht v (share v hn hv)
  exact ⟨patch (S.new.flatMap BLit.vars) e' e,
    fun H T => (bodySat_congr patch_eq).symm,
    fun H T => bodySat_congr fun v hv => hp v (.inl hv),
    headVarsOk _ _ fun v hv => hp v (.inr hv)⟩

theorem wf (hc : Cond P G S) (hP0 : ∀ r, P0 r → HT.Indep (splitData P G S P0).A r) : (splitData P G S P0).WF where
  p0 := hP0
  n := fun _ => .anti (fun _ => named_nameSig) fun _ _ _ _ => bodySat_indep hc.freshNew
  r := fun _ => .anti (fun _ => named_nameSig) fun _ _ _ _ => bodySat_indep hc.freshRest
  hd := fun e => .anti (fun _ => named_nameSig) (hc.headIndep e)
  pers := fun _ _ _ hs h => bodySat_pers hc.aggPers hs h

theorem models_instances {head : Head} {body : List BLit} {H T : Interp} :
    HT.Models (instances P G head body) H T ↔
      ∀ e, HT.mkRule (fun H T => bodySat P.toParams G e H T body) (fun H T => P.headSat G e H T head) H T :=
  HT.models_family

theorem bodySat_parts {body new rest : List BLit} (h : ∀ l, l ∈ body ↔ l ∈ new ∨ l ∈ rest) (e : Env) (H T : Interp) :
    bodySat P.toParams G e H T body ↔ bodySat P.toParams G e H T new ∧ bodySat P.toParams G e H T rest := by
  simp only [bodySat, h, or_imp, forall_and]

theorem auxLit_sat {n : String} {vs : List String} {e : Env} {H T : Interp} :
    litSat P.toParams G e H T (auxLit n vs) ↔ H ⟨n, vs.map e⟩ := by
  simp only [auxLit, auxAtomTerm, litSat_pos_fn, evalTerms_vars, Option.some.injEq, exists_eq_left']

theorem bodySat_upd {rest : List BLit} {n : String} {vs : List String} (e : Env) (H T : Interp) :
    bodySat P.toParams G e H T (rest ++ [.lit (auxLit n vs)]) ↔ H ⟨n, vs.map e⟩ ∧ bodySat P.toParams G e H T rest := by
  rw [bodySat_append, bodySat_singleton, blitSat_lit, auxLit_sat, and_comm]

theorem inst_orig (S : Syn) (parts : ∀ l, l ∈ S.body ↔ l ∈ S.new ∨ l ∈ S.rest) :
    SEq (instances P G S.head S.body)
      (family (fun e H T => bodySat P.toParams G e H T S.new ∧ bodySat P.toParams G e H T S.rest)
        fun e H T => P.headSat G e H T S.head) :=
  HT.family_congr (bodySat_parts parts) fun _ _ _ => Iff.rfl

theorem inst_folded (S : Syn) :
    SEq (instances P G S.head (S.rest ++ [.lit (auxLit S.auxName S.vs)]))
      (family (fun e H T => H ⟨S.auxName, S.vs.map e⟩ ∧ bodySat P.toParams G e H T S.rest)
        fun e H T => P.headSat G e H T S.head) :=
  HT.family_congr bodySat_upd fun _ _ _ => Iff.rfl

theorem inst_aux (S : Syn)
    (atomHead : ∀ e H T t a, groundAtom P.toParams e t = some a → (P.headSat G e H T (.lit (.pos, .sym t)) ↔ H a)) :
    SEq (instances P G (.lit (auxLit S.auxName S.vs)) S.new) (splitData P G S P0).auxRules :=
  HT.family_congr (fun _ _ _ => Iff.rfl) fun e H T =>
    atomHead e H T _ _ (groundAtom_vars P.toParams e S.auxName S.vs)

theorem seq_orig (hc : Cond P G S) : SEq (HT.Union P0 (instances P G S.head S.body)) (splitData P G S P0).orig :=
  (SEq.refl P0).union (inst_orig S hc.parts)

theorem seq_splitProg (hc : Cond P G S) :
    SEq (splitProg P G S P0) (HT.Union (splitData P G S P0).folded (splitData P G S P0).auxRules) :=
  ((SEq.refl P0).union (inst_folded S)).union (inst_aux S hc.atomHead)

end

variable {P} in
theorem ext_eq {G : String → Prop} {S : Syn} {P0 : HT.Prog GAtom} (hw : (splitData P G S P0).WF) (T : Interp) :
    HT.ext ((splitData P G S P0).defs hw) T = extend P G S T := by
  funext a
  show (((¬ ∃ k, a = ⟨S.auxName, k⟩) ∧ T a) ∨
      ((∃ k, a = ⟨S.auxName, k⟩) ∧ ∃ e : Env, a = ⟨S.auxName, S.vs.map e⟩ ∧ bodySat P.toParams G e T T S.new)) =
    ((a.name ≠ S.auxName ∧ T a) ∨ ∃ e : Env, a = ⟨S.auxName, S.vs.map e⟩ ∧ bodySat P.toParams G e T T S.new)
  have hname : (∃ k, a = ⟨S.auxName, k⟩) ↔ a.name = S.auxName :=
    ⟨fun ⟨k, hk⟩ => hk ▸ rfl, fun hn => ⟨a.args, by cases a; cases hn; rfl⟩⟩
  exact propext (or_congr (and_congr_left fun _ => not_congr hname) (and_iff_right_of_imp fun ⟨e, ha, _⟩ => ⟨_, ha⟩))

theorem split_sound (G : String → Prop) (S : Syn) (P0 : HT.Prog GAtom) (hc : Cond P G S)
    (hP0 : ∀ r, P0 r → HT.Indep (splitData P G S P0).A r) (T : Interp)
    (hT : HT.Stable (HT.Union P0 (instances P G S.head S.body)) T) :
    HT.Stable (splitProg P G S P0) (extend P G S T) :=
  ext_eq (wf hc hP0) T ▸
    (splitData P G S P0).sound_of_seq _ (glue hc.share hc.headVarsOk) (seq_orig hc) (seq_splitProg hc) hT

theorem split_complete (G : String → Prop) (S : Syn) (P0 : HT.Prog GAtom) (hc : Cond P G S)
    (hP0 : ∀ r, P0 r → HT.Indep (splitData P G S P0).A r) (T' : Interp)
    (hT' : HT.Stable (splitProg P G S P0) T') :
    ∃ T, HT.Stable (HT.Union P0 (instances P G S.head S.body)) T ∧ ∀ a, T' a ↔ extend P G S T a := by
  simp only [← ext_eq (wf hc hP0)]
  exact (splitData P G S P0).complete_of_seq _ (glue hc.share hc.headVarsOk) (seq_orig hc) (seq_splitProg hc) hT'

theorem fold_existing (G : String → Prop) (S : Syn) (P0 : HT.Prog GAtom) (hc : Cond P G S)
    (hP0 : ∀ r, P0 r → HT.Indep (splitData P G S P0).A r) (T : Interp) :
    HT.Stable (unfoldedProg P G S P0) T ↔ HT.Stable (splitProg P G S P0) T :=
  (splitData P G S P0).fold_of_seq (wf hc hP0) (glue hc.share hc.headVarsOk) ((seq_orig hc).union (inst_aux S hc.atomHead))
    (seq_splitProg hc) T

end NgoVerif.Proofs.C16sem
