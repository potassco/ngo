import NgoVerif.Sem.Rename
import NgoVerif.Sem.Coincidence
import NgoVerif.Sem.Program
/-!
# `symmetry`: replacing `X != Y` by `X < Y` in a rule whose rest is symmetric in `X` and `Y` — from syntax

`h :- B, X != Y.` and `h :- B, X < Y.` have the same here-and-there models (hence the same stable models, whatever is
added to the program) under the condition `Symmetric`: an involution `σ` of the variables that exchanges `X` and `Y`
maps every literal of `B` to a literal of `B`, up to the orientation of an inequality `U != V` (this is what "two
copies of the same literals" means), and neither the set of global variables nor the head tells `e` from `e ∘ σ`.
-/
namespace NgoVerif.Proofs.C11sem
open NgoVerif.Sem

variable (P : PParams)

def swap (X Y : String) : String → String := fun v => if v = X then Y else if v = Y then X else v

theorem swap_left (X Y : String) : swap X Y X = Y := if_pos rfl
theorem swap_right (X Y : String) : swap X Y Y = X := by
  unfold swap; by_cases h : Y = X <;> simp [h]

theorem swap_inv (X Y : String) : ∀ v, swap X Y (swap X Y v) = v := by
  intro v
  by_cases h1 : v = X
  · rw [h1, swap_left, swap_right]
  · by_cases h2 : v = Y
    · rw [h2, swap_right, swap_left]
    · have hv : swap X Y v = v := by rw [swap, if_neg h1, if_neg h2]
      rw [hv, hv]

def cmpBLit (X : String) (op : CmpOp) (Y : String) : BLit := .lit (.pos, .cmp (.var X) [⟨op, .var Y⟩])

variable {P} in
theorem cmpBLit_sat {G : String → Prop} {e : Env} {H T : Interp} {X Y : String} {op : CmpOp} :
    blitSat P.toParams G e H T (cmpBLit X op Y) ↔ P.rel op (e X) (e Y) := by
  simp [cmpBLit, blitSat_lit, litSat_pos_cmp, chainHolds, evalTerm]

variable {P} in
theorem globals_same (h : Head) (b : List BLit) (X Y : String) (op op' : CmpOp) :
    ruleGlobals P h (b ++ [cmpBLit X op Y]) = ruleGlobals P h (b ++ [cmpBLit X op' Y]) := by
  simp only [ruleGlobals, bodyGlobals_append, bodyGlobals_singleton, cmpBLit, blitGlobals_cmp, List.flatMap_singleton]

/-- `σ` is the plain swap or the swap of several pairs at once: `p(A), p(B), q(A,V1), q(B,V2), V1 != V2` is symmetric
under `A↔B, V1↔V2` only -/
structure Symmetric (σ : String → String) (X Y : String) (h : Head) (b : List BLit) : Prop where
  inv : ∀ v, σ (σ v) = v
  sx : σ X = Y
  body : ∀ l ∈ b, renameBLit σ l ∈ b ∨ ∃ U V, renameBLit σ l = cmpBLit U .ne V ∧ cmpBLit V .ne U ∈ b
  globals : ∀ v, v ∈ ruleGlobals P h (b ++ [cmpBLit X .ne Y]) ↔ σ v ∈ ruleGlobals P h (b ++ [cmpBLit X .ne Y])
  head : ∀ (e : Env) H T, P.headSat (fun v => v ∈ ruleGlobals P h (b ++ [cmpBLit X .ne Y])) (fun v => e (σ v)) H T h ↔
    P.headSat (fun v => v ∈ ruleGlobals P h (b ++ [cmpBLit X .ne Y])) e H T h
  /-- clingo's order on ground terms is total -/
  total : ∀ x y, P.rel .ne x y ↔ (P.rel .lt x y ∨ P.rel .lt y x)

variable {P} {σ : String → String} {X Y : String} {h : Head} {b : List BLit}

theorem Symmetric.sy (hs : Symmetric P σ X Y h b) : σ Y = X := by rw [← hs.sx, hs.inv]

theorem Symmetric.ne_comm (hs : Symmetric P σ X Y h b) {x y : Sym} (hne : P.rel .ne x y) : P.rel .ne y x :=
  (hs.total y x).mpr ((hs.total x y).mp hne).symm

theorem body_swap (hs : Symmetric P σ X Y h b) {e : Env} {H T : Interp}
    (hb : bodySat P.toParams (fun v => v ∈ ruleGlobals P h (b ++ [cmpBLit X .ne Y])) e H T b) :
    bodySat P.toParams (fun v => v ∈ ruleGlobals P h (b ++ [cmpBLit X .ne Y])) (fun v => e (σ v)) H T b := by
  intro l hl
  refine (blitSat_gcongr fun v _ => (hs.globals v).symm).mp ((blitSat_rename hs.inv).mp ?_)
  rcases hs.body l hl with h1 | ⟨U, V, h1, h2⟩
  · exact hb _ h1
  · rw [h1, cmpBLit_sat]
    exact hs.ne_comm (cmpBLit_sat.mp (hb _ h2))

/-- The idea of the rewrite, free of syntax.  Contraposed, with pairs of integers, `Prod.swap`, `≠`, `<` and
`Q := ¬ R`, this is the ground lemma `Alg.neq_to_lt`. -/
theorem forall_guard_iff_of_mirror {α : Type} (s : α → α) {C C' Q : α → Prop} (hC : ∀ a, C a ↔ C' a ∨ C' (s a))
    (hQ : ∀ a, Q (s a) → Q a) : (∀ a, C a → Q a) ↔ ∀ a, C' a → Q a :=
  ⟨fun hall a hc => hall a ((hC a).mpr (.inl hc)),
    fun hall a hc => ((hC a).mp hc).elim (hall a) fun hc' => hQ a (hall (s a) hc')⟩

theorem neq_to_lt_at (hs : Symmetric P σ X Y h b) {H T : Interp} :
    (∀ e, bodySat P.toParams (fun v => v ∈ ruleGlobals P h (b ++ [cmpBLit X .ne Y])) e H T (b ++ [cmpBLit X .ne Y]) →
      P.headSat (fun v => v ∈ ruleGlobals P h (b ++ [cmpBLit X .ne Y])) e H T h) ↔
    ∀ e, bodySat P.toParams (fun v => v ∈ ruleGlobals P h (b ++ [cmpBLit X .ne Y])) e H T (b ++ [cmpBLit X .lt Y]) →
      P.headSat (fun v => v ∈ ruleGlobals P h (b ++ [cmpBLit X .ne Y])) e H T h := by
  -- `and_comm` brings the comparison to the front: it is the guard `C` resp. `C'` of the lemma, and "`b` holds → head" is `Q`
  simp only [bodySat_append, bodySat_singleton, cmpBLit_sat, and_comm (b := P.rel _ _ _), and_imp]
  refine forall_guard_iff_of_mirror (fun e v => e (σ v)) (fun e => ?_) fun e hq hb => ?_
  · simpa only [hs.sx, hs.sy] using hs.total (e X) (e Y)
  · exact (hs.head e H T).mp (hq (body_swap hs hb))

theorem neq_to_lt_stm {l c : Nat} (hs : Symmetric P σ X Y h b) (H T : Interp) :
    stmSat P H T (.rule l c h (b ++ [cmpBLit X .ne Y])) ↔ stmSat P H T (.rule l c h (b ++ [cmpBLit X .lt Y])) := by
  simp only [stmSat, ← globals_same h b X Y .ne .lt, forall_and]
  exact and_congr (neq_to_lt_at hs) (neq_to_lt_at hs)

theorem neq_to_lt_strongEq {l c : Nat} (hs : Symmetric P σ X Y h b) (pre post : Prog) :
    StrongEq P (pre ++ .rule l c h (b ++ [cmpBLit X .ne Y]) :: post) (pre ++ .rule l c h (b ++ [cmpBLit X .lt Y]) :: post) :=
  StrongEq.replace (neq_to_lt_stm hs) pre post

end NgoVerif.Proofs.C11sem
