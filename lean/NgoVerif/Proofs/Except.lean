/-!
# Reading a successful run of an `Except` program backwards

The models of the passes are `do` blocks in `Except`.  `simp only [f, Except.bind_eq_ok_iff,
Except.ite_none_eq_ok_some] at h` (with `Except.throw_bind, Except.ite_throw_eq_ok` where the block throws) turns a
hypothesis `h : f … = .ok v` into the conjunction of the steps of the block at once.
-/

namespace Except

theorem bind_eq_ok_iff {ε α β : Type _} {x : Except ε α} {f : α → Except ε β} {b : β} :
    x >>= f = .ok b ↔ ∃ a, x = .ok a ∧ f a = .ok b := by
  cases x with
  | error e => exact ⟨fun h => (nomatch h), fun ⟨_, h, _⟩ => (nomatch h)⟩
  | ok a => exact ⟨fun h => ⟨a, rfl, h⟩, fun ⟨_, h, h'⟩ => by cases h; exact h'⟩

theorem ite_none_eq_ok_some {ε α : Type _} {c : Prop} [Decidable c] {k : Except ε (Option α)} {v : α} :
    (if c then pure none else k) = .ok (some v) ↔ ¬ c ∧ k = .ok (some v) := by
  by_cases hc : c
  · simp only [hc, if_true, not_true, false_and, iff_false]; exact fun h => nomatch h
  · simp only [hc, if_false, not_false_eq_true, true_and]

theorem ite_throw_eq_ok {ε α : Type _} {c : Prop} [Decidable c] {e : ε} {k : Except ε α} {v : α} :
    (if c then throw e else k) = .ok v ↔ ¬ c ∧ k = .ok v := by
  by_cases hc : c
  · simp only [hc, if_true, not_true, false_and, iff_false]; exact fun h => nomatch h
  · simp only [hc, if_false, not_false_eq_true, true_and]

/-- `if c then throw e` in the middle of a `do` block is `if c then throw e >>= rest else rest` -/
theorem throw_bind {ε α β : Type _} (e : ε) (k : α → Except ε β) : throw e >>= k = throw e := rfl

end Except
