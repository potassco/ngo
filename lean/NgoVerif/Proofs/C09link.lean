import NgoVerif.Proofs.C09sem
import NgoVerif.Model.Unused
/-!
# From the decision of the model of `unused.py` to the side condition of `Proofs/C09sem`

`removable (analyzeUsage prg inputs outputs) added r = true` (what `remove_unused` of `Model/Unused.lean` tests, tied to
the Python by `corr_unused.py`) implies `C09sem.Unused n k prg` for the predicate `n/k` of the head of `r`: the usage
scan saw no `Function` node `n/k` in any body, condition, aggregate element, negated head literal, disjunction,
choice or head-aggregate element, objective body or `#external` body - so every statement either is a defining rule
of `n/k` or does not mention it.
-/
namespace NgoVerif.Proofs.C09link
open NgoVerif.Sem NgoVerif.Unused NgoVerif.Proofs.C09sem

def EvFree (p : Pred) (evs : List Event) : Prop := ∀ e ∈ evs, e.1 ≠ p

theorem evFree_of_isUsed {ev : List Event} {p : Pred} (h : isUsed ev p = false) : EvFree p ev :=
  fun e he => by simpa using List.any_eq_false.mp h e he

theorem EvFree.append_left {p : Pred} {a b : List Event} (h : EvFree p (a ++ b)) : EvFree p a :=
  fun e he => h e (List.mem_append_left _ he)
theorem EvFree.append_right {p : Pred} {a b : List Event} (h : EvFree p (a ++ b)) : EvFree p b :=
  fun e he => h e (List.mem_append_right _ he)
theorem EvFree.of_flatMap {α : Type} {p : Pred} {l : List α} {f : α → List Event} (h : EvFree p (l.flatMap f))
    {x : α} (hx : x ∈ l) : EvFree p (f x) :=
  fun e he => h e (List.mem_flatMap.mpr ⟨x, hx, he⟩)

def NoP (p : Pred) (ts : List Term) : Prop :=
  ∀ t ∈ ts, ∀ name args ext, t = Term.fn name args ext → (⟨name, args.length⟩ : Pred) ≠ p

theorem noP_of_events {p : Pred} {ts : List Term}
    (h : EvFree p ((ts.flatMap (Term.collect Term.isFn)).flatMap fnEvent)) : NoP p ts := by
  intro t ht name args ext heq
  subst heq
  apply h (⟨name, args.length⟩, nonAnonPositions 0 args)
  apply List.mem_flatMap.mpr
  refine ⟨.fn name args ext, List.mem_flatMap.mpr ⟨_, ht, ?_⟩, by simp [fnEvent]⟩
  simp [Term.collect, Term.isFn]

theorem NoP.append_left {p : Pred} {a b : List Term} (h : NoP p (a ++ b)) : NoP p a :=
  fun t ht => h t (List.mem_append_left _ ht)
theorem NoP.append_right {p : Pred} {a b : List Term} (h : NoP p (a ++ b)) : NoP p b :=
  fun t ht => h t (List.mem_append_right _ ht)

theorem sig_false {p : Pred} {name : String} {k : Nat} (h : (⟨name, k⟩ : Pred) ≠ p) :
    predSig p.name p.arity name k = false :=
  Bool.eq_false_iff.mpr fun hs => by
    simp only [predSig, Bool.and_eq_true, beq_iff_eq] at hs
    exact h (by rw [hs.1, hs.2])

theorem avoids_of_noP (p : Pred) :
    (∀ a : Atom, NoP p a.terms → atomAvoids (predSig p.name p.arity) a = true) ∧
    (∀ l : Lit, NoP p (litTerms l) → atomAvoids (predSig p.name p.arity) l.2 = true) ∧
    (∀ ls : List Lit, NoP p (litsTerms ls) → litsAvoid (predSig p.name p.arity) ls = true) ∧
    (∀ es : List BAggElem, NoP p (bElemsTerms es) → bElemsAvoid (predSig p.name p.arity) es = true) ∧
    ∀ es : List CondLit, NoP p (cElemsTerms es) → cElemsAvoid (predSig p.name p.arity) es = true := by
  apply atom_induct
  case sym =>
    intro t h
    cases t with
    | fn name args ext =>
      rw [atomAvoids, Bool.not_eq_true']
      exact sig_false (h _ List.mem_cons_self name args ext rfl)
    | _ => rfl
  case cmp | bool | theory => intros; rfl
  case bagg =>
    intro _ _ lg f es rg ih h
    rw [Atom.terms] at h
    rw [atomAvoids]
    exact ih h.append_left.append_right
  case agg =>
    intro lg es rg ih h
    rw [Atom.terms] at h
    rw [atomAvoids]
    exact ih h.append_left.append_right
  case lit => intro s a ih; exact ih
  case lits_nil => intro _; rfl
  case lits_cons =>
    intro s a ls ihl ih h
    rw [litsTerms] at h
    rw [litsAvoid, Bool.and_eq_true]
    exact ⟨ihl h.append_left, ih h.append_right⟩
  case belems_nil => intro _; rfl
  case belems_cons =>
    intro ts c es ihc ih h
    rw [bElemsTerms] at h
    rw [bElemsAvoid, Bool.and_eq_true]
    exact ⟨ihc h.append_left.append_right, ih h.append_right⟩
  case celems_nil => intro _; rfl
  case celems_cons =>
    intro s a c es ihl ihc ih h
    rw [cElemsTerms] at h
    rw [cElemsAvoid, Bool.and_eq_true, Bool.and_eq_true]
    exact ⟨⟨ihl h.append_left.append_left, ihc h.append_left.append_right⟩, ih h.append_right⟩

theorem litAvoids_of_noP (p : Pred) : ∀ (l : Lit), NoP p (litTerms l) → atomAvoids (predSig p.name p.arity) l.2 = true :=
  (avoids_of_noP p).2.1

theorem litsAvoid_of_noP (p : Pred) : ∀ (ls : List Lit), NoP p (litsTerms ls) →
    litsAvoid (predSig p.name p.arity) ls = true :=
  (avoids_of_noP p).2.2.1

theorem bElemsAvoid_of_noP (p : Pred) : ∀ (es : List (List Term × List (Sign × Atom))), NoP p (bElemsTerms es) →
    bElemsAvoid (predSig p.name p.arity) es = true :=
  (avoids_of_noP p).2.2.2.1

theorem cElemsAvoid_of_noP (p : Pred) : ∀ (es : List ((Sign × Atom) × List (Sign × Atom))), NoP p (cElemsTerms es) →
    cElemsAvoid (predSig p.name p.arity) es = true :=
  (avoids_of_noP p).2.2.2.2

theorem litAvoids_of_events {p : Pred} {l : Lit} (h : EvFree p (litEvents l)) :
    atomAvoids (predSig p.name p.arity) l.2 = true :=
  litAvoids_of_noP p l (noP_of_events h)

theorem litsAvoid_of_events {p : Pred} : ∀ {c : List Lit}, EvFree p (condEvents c) →
    litsAvoid (predSig p.name p.arity) c = true
  | [], _ => by simp [litsAvoid]
  | l :: ls, h => by
    simp only [condEvents, List.flatMap_cons] at h
    obtain ⟨s, a⟩ := l
    simp only [litsAvoid, Bool.and_eq_true]
    exact ⟨litAvoids_of_events h.append_left, litsAvoid_of_events (by simpa [condEvents] using h.append_right)⟩

theorem blitAvoids_of_events {p : Pred} {b : BLit} (h : EvFree p (blitEvents b)) :
    blitAvoids (predSig p.name p.arity) b = true := by
  have hn : NoP p b.terms := noP_of_events h
  cases b with
  | lit l => exact litAvoids_of_noP p l hn
  | clit c =>
    rw [blitAvoids, Bool.and_eq_true]
    exact ⟨litAvoids_of_noP p c.1 hn.append_left, litsAvoid_of_noP p c.2 hn.append_right⟩

theorem bodyAvoids_of_events {p : Pred} {b : List BLit} (h : EvFree p (bodyEvents b)) :
    bodyAvoids (predSig p.name p.arity) b = true := by
  simp only [bodyAvoids, List.all_eq_true]
  intro l hl
  exact blitAvoids_of_events (h.of_flatMap hl)

/-- the shape of head literals the parser produces -/
def headLitOk : Head → Bool
  | .lit (_, .sym (.fn _ _ ext)) => !ext
  | .lit (_, .sym _) => true
  | .lit (_, .cmp _ _) => true
  | .lit (_, .bool _) => true
  | .lit _ => false
  | _ => true

def stmOk : Stm → Bool
  | .rule _ _ h _ => headLitOk h
  | _ => true

theorem condLitAvoids_of_events {p : Pred} {c : CondLit} (h1 : EvFree p (condEvents c.2)) (h2 : EvFree p (litEvents c.1)) :
    condLitAvoids (predSig p.name p.arity) c = true := by
  simp only [condLitAvoids, Bool.and_eq_true]
  exact ⟨litAvoids_of_events h2, litsAvoid_of_events h1⟩

theorem plainHead_cases (p : Pred) {a : Atom} (hok : headLitOk (.lit (.pos, a)) = true) :
    (∃ args, a = .sym (.fn p.name args false) ∧ args.length = p.arity) ∨ atomAvoids (predSig p.name p.arity) a = true := by
  cases a with
  | sym t =>
    cases t with
    | fn name args ext =>
      cases ext with
      | true => cases hok
      | false =>
        by_cases hp : (⟨name, args.length⟩ : Pred) = p
        · exact .inl ⟨args, by cases hp; rfl, by cases hp; rfl⟩
        · exact .inr (by simp only [atomAvoids, sig_false hp, Bool.not_false])
    | _ => exact .inr rfl
  | cmp _ _ => exact .inr rfl
  | bool _ => exact .inr rfl
  | _ => cases hok

/-- every head but a plain atom leaves an event for each atom in it -/
theorem head_cases {p : Pred} : ∀ {hd : Head}, headLitOk hd = true → EvFree p (headEvents hd) →
    (∃ args, hd = .lit (.pos, .sym (.fn p.name args false)) ∧ args.length = p.arity) ∨
      headAvoids (predSig p.name p.arity) hd = true
  | .lit (.pos, _), hok, _ => (plainHead_cases p hok).imp_left fun ⟨args, ha, hk⟩ => ⟨args, ha ▸ rfl, hk⟩
  | .lit (.neg, _), _, h => .inr (litAvoids_of_events h)
  | .lit (.dneg, _), _, h => .inr (litAvoids_of_events h)
  | .disj _, _, h | .agg _ _ _, _, h => .inr <| List.all_eq_true.mpr fun _ hc =>
    condLitAvoids_of_events (h.append_left.of_flatMap hc) (h.append_right.of_flatMap hc)
  | .hagg _ _ _ _, _, h => .inr <| List.all_eq_true.mpr fun _ hx =>
    condLitAvoids_of_events (h.of_flatMap hx).append_left (h.of_flatMap hx).append_right
  | .theory _, _, _ => .inr rfl

theorem stm_cases {p : Pred} {s : Stm} (hok : stmOk s = true) (h : EvFree p (stmEvents s)) :
    defRule p.name p.arity s = true ∨ stmAvoids (predSig p.name p.arity) s = true := by
  cases s with
  | rule l c hd b =>
    have hb := bodyAvoids_of_events h.append_left
    rcases head_cases hok h.append_right with ⟨args, rfl, hk⟩ | hh
    · exact .inl (by simp [defRule, hk, hb])
    · exact .inr (by simp [stmAvoids, hh, hb])
  | minimize l c w pr ts b => exact .inr (bodyAvoids_of_events h)
  | showTerm t b => exact .inr (bodyAvoids_of_events h)
  | _ => exact .inr rfl

theorem removable_unused {prg : Prog} {inputs outputs added : List Pred} (hok : ∀ s ∈ prg, stmOk s = true)
    {l c : Nat} {name : String} {args : List Term} {ext : Bool} {b : List BLit}
    (hrem : removable (analyzeUsage prg inputs outputs) added (.rule l c (.lit (.pos, .sym (.fn name args ext))) b) = true) :
    C09sem.Unused name args.length prg := by
  simp only [removable, Bool.not_eq_true', Bool.or_eq_false_iff] at hrem
  -- `analyzeUsage prg inputs outputs` is `prg.flatMap stmEvents ++ …`: the program's events come first
  exact fun s hs =>
    stm_cases (p := ⟨name, args.length⟩) (hok s hs) ((evFree_of_isUsed hrem.1).append_left.of_flatMap hs)

end NgoVerif.Proofs.C09link
