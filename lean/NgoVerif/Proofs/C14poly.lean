import NgoVerif.Model.MathSimpPoly
import Mathlib.Algebra.Group.Int.Defs
/-!
# `math`: the polynomial normal form of the model is exact over the integers

`Model/MathSimpPoly.lean` mirrors `sympy.expand`: every comparison the pass looks at becomes an integer polynomial in
normal form (`Poly`), and what sympy returns is read back through `Tree.toPoly?`.  Here: the value of a polynomial
under EVERY integer assignment of its symbols; the operations of the model and the reading of a sympy tree commute with
it.  Nothing is assumed about the normal form (sortedness, non-zero coefficients): the identities hold for every list.

The Mathlib import is there for `Int.instMonoid` alone: the `^` of `evalMono` and `Tree.eval?` is the monoid power.
-/
namespace NgoVerif.MathSimp

abbrev Asg := String → Int

def evalMono (ρ : Asg) : Mono → Int
  | [] => 1
  | (n, k) :: rest => ρ n ^ k * evalMono ρ rest

def evalPoly (ρ : Asg) : Poly → Int
  | [] => 0
  | (m, c) :: rest => c * evalMono ρ m + evalPoly ρ rest

theorem evalMono_mul (ρ : Asg) (a b : Mono) : evalMono ρ (Mono.mul a b) = evalMono ρ a * evalMono ρ b := by
  fun_induction Mono.mul a b with
  | case1 b => rw [evalMono, Int.one_mul]  -- `[] · b`
  | case2 a _ => rw [evalMono, Int.mul_one]  -- `a · []`
  | case3 x i as y j bs hxy ih =>  -- the same symbol in front: the exponents add up
    cases eq_of_beq hxy
    simp only [evalMono, ih, Int.pow_add]
    ac_rfl
  | case4 x i as y j bs _ _ ih =>  -- `x < y`: `x` goes in front
    simp only [evalMono, ih]
    ac_rfl
  | case5 x i as y j bs _ _ ih =>  -- otherwise `y` goes in front
    simp only [evalMono, ih]
    ac_rfl

theorem evalPoly_addTerm (ρ : Asg) (m : Mono) (c : Int) (p : Poly) :
    evalPoly ρ (addTerm m c p) = c * evalMono ρ m + evalPoly ρ p := by
  fun_induction addTerm m c p with
  | case1 hz => rw [eq_of_beq hz, Int.zero_mul, Int.zero_add]  -- `p = []` and `c = 0`: nothing is added
  | case2 => rfl  -- `p = []`: the term alone
  | case3 m' c' rest hm hz =>  -- the monomial is there and the coefficients cancel
    cases eq_of_beq hm
    rw [evalPoly, ← Int.add_assoc, ← Int.add_mul, eq_of_beq hz, Int.zero_mul, Int.zero_add]
  | case4 m' c' rest hm =>  -- the monomial is there
    cases eq_of_beq hm
    rw [evalPoly, evalPoly, Int.add_mul, Int.add_assoc]
  | case5 m' c' rest _ _ hz =>  -- a smaller key and `c = 0`: nothing is added
    rw [eq_of_beq hz, Int.zero_mul, Int.zero_add]
  | case6 => rfl  -- a smaller key: the term goes in front
  | case7 m' c' rest _ _ ih =>  -- otherwise the term goes into the rest
    rw [evalPoly, ih, evalPoly, Int.add_left_comm]

theorem evalPoly_add (ρ : Asg) (p q : Poly) : evalPoly ρ (p.add q) = evalPoly ρ p + evalPoly ρ q := by
  unfold Poly.add
  induction q generalizing p with
  | nil => exact (Int.add_zero _).symm
  | cons t rest ih =>
    rw [List.foldl_cons, ih, evalPoly_addTerm, evalPoly]
    ac_rfl

theorem evalPoly_neg (ρ : Asg) (p : Poly) : evalPoly ρ p.neg = - evalPoly ρ p := by
  induction p with
  | nil => rfl
  | cons t rest ih =>
    simp only [Poly.neg, List.map_cons, evalPoly] at ih ⊢
    rw [ih, Int.neg_add, Int.neg_mul]

theorem evalPoly_sub (ρ : Asg) (p q : Poly) : evalPoly ρ (p.sub q) = evalPoly ρ p - evalPoly ρ q := by
  rw [Poly.sub, evalPoly_add, evalPoly_neg, Int.sub_eq_add_neg]

theorem evalPoly_map_scale (ρ : Asg) (m : Mono) (c : Int) (q : Poly) :
    evalPoly ρ (q.map fun u => (Mono.mul m u.1, c * u.2)) = c * evalMono ρ m * evalPoly ρ q := by
  induction q with
  | nil => exact (Int.mul_zero _).symm
  | cons u rest ih =>
    simp only [List.map_cons, evalPoly, ih, evalMono_mul, Int.mul_add]
    ac_rfl

theorem evalPoly_mul_aux (ρ : Asg) (p q acc : Poly) :
    evalPoly ρ (p.foldl (fun acc t => acc.add (q.map fun u => (Mono.mul t.1 u.1, t.2 * u.2))) acc) =
      evalPoly ρ acc + evalPoly ρ p * evalPoly ρ q := by
  induction p generalizing acc with
  | nil => simp [evalPoly]
  | cons t rest ih => rw [List.foldl_cons, ih, evalPoly_add, evalPoly_map_scale, evalPoly, Int.add_mul, Int.add_assoc]

theorem evalPoly_mul (ρ : Asg) (p q : Poly) : evalPoly ρ (p.mul q) = evalPoly ρ p * evalPoly ρ q := by
  -- the inner loop of `Poly.mul` is `Poly.add` of `q` scaled by the current term of `p`
  simpa only [Poly.mul, Poly.add, List.foldl_map, evalPoly, Int.zero_add] using evalPoly_mul_aux ρ p q []

theorem evalPoly_const (ρ : Asg) (n : Int) : evalPoly ρ (Poly.const n) = n := by
  unfold Poly.const
  split
  · rename_i h
    rw [eq_of_beq h]; rfl
  · simp [evalPoly, evalMono]

theorem evalPoly_sym (ρ : Asg) (s : String) : evalPoly ρ (Poly.sym s) = ρ s := by
  simp [Poly.sym, evalPoly, evalMono]

theorem evalPoly_pow (ρ : Asg) (p : Poly) (n : Nat) : evalPoly ρ (p.pow n) = evalPoly ρ p ^ n := by
  induction n with
  | zero => rw [Poly.pow, evalPoly_const, Int.pow_zero]
  | succ k ih => rw [Poly.pow, evalPoly_mul, ih, Int.pow_succ]

theorem evalPoly_const? (ρ : Asg) (p : Poly) (c : Int) (h : p.const? = some c) : evalPoly ρ p = c := by
  unfold Poly.const? at h
  split at h
  · cases h; rfl
  · cases h; simp [evalPoly, evalMono]
  · cases h

mutual
def Tree.eval? (ρ : Asg) : Tree → Option Int
  | .int n => some n
  | .rat _ _ => none
  | .sym s => some (ρ s)
  | .add args => Tree.sumEval? ρ args
  | .mul args => Tree.prodEval? ρ args
  | .pow b e _ =>
    match e with
    | .int n => if n < 0 then none else (Tree.eval? ρ b).map fun x => x ^ n.toNat
    | _ => none
  | .other _ _ => none
def Tree.sumEval? (ρ : Asg) : List Tree → Option Int
  | [] => some 0
  | t :: ts => do
    let a ← Tree.eval? ρ t
    let b ← Tree.sumEval? ρ ts
    pure (a + b)
def Tree.prodEval? (ρ : Asg) : List Tree → Option Int
  | [] => some 1
  | t :: ts => do
    let a ← Tree.eval? ρ t
    let b ← Tree.prodEval? ρ ts
    pure (a * b)
end

mutual
theorem Tree.toPoly?_exact (ρ : Asg) : ∀ (t : Tree) (p : Poly), t.toPoly? = some p → Tree.eval? ρ t = some (evalPoly ρ p)
  | .int n, p, h => by
    simp only [Tree.toPoly?, Option.some.injEq] at h
    rw [Tree.eval?, ← h, evalPoly_const]
  | .rat _ _, p, h => by simp only [Tree.toPoly?, reduceCtorEq] at h
  | .sym s, p, h => by
    simp only [Tree.toPoly?, Option.some.injEq] at h
    rw [Tree.eval?, ← h, evalPoly_sym]
  | .add args, p, h => by
    rw [Tree.toPoly?] at h
    rw [Tree.eval?]
    exact Tree.sumPoly?_exact ρ args p h
  | .mul args, p, h => by
    rw [Tree.toPoly?] at h
    rw [Tree.eval?]
    exact Tree.prodPoly?_exact ρ args p h
  | .pow b e pos, p, h => by
    simp only [Tree.toPoly?] at h
    split at h
    · rename_i n
      simp only [Bool.or_eq_true, decide_eq_true_eq, Option.ite_none_left_eq_some, not_or, Option.map_eq_some_iff] at h
      obtain ⟨⟨hn, _⟩, q, hq, rfl⟩ := h
      simp only [Tree.eval?, if_neg hn, Tree.toPoly?_exact ρ b q hq, Option.map_some, evalPoly_pow]
    · cases h
  | .other _ _, p, h => by simp only [Tree.toPoly?, reduceCtorEq] at h
theorem Tree.sumPoly?_exact (ρ : Asg) : ∀ (ts : List Tree) (p : Poly), Tree.sumPoly? ts = some p →
    Tree.sumEval? ρ ts = some (evalPoly ρ p)
  | [], p, h => by
    simp only [Tree.sumPoly?, Option.some.injEq] at h
    rw [Tree.sumEval?, ← h, evalPoly]
  | t :: ts, p, h => by
    simp only [Tree.sumPoly?, Option.bind_eq_bind, Option.bind_eq_some_iff, Option.pure_def, Option.some.injEq] at h
    obtain ⟨q, hq, r, hr, rfl⟩ := h
    simp only [Tree.sumEval?, Tree.toPoly?_exact ρ t q hq, Tree.sumPoly?_exact ρ ts r hr, evalPoly_add,
      Option.bind_eq_bind, Option.bind_some, Option.pure_def]
theorem Tree.prodPoly?_exact (ρ : Asg) : ∀ (ts : List Tree) (p : Poly), Tree.prodPoly? ts = some p →
    Tree.prodEval? ρ ts = some (evalPoly ρ p)
  | [], p, h => by
    simp only [Tree.prodPoly?, Option.some.injEq] at h
    rw [Tree.prodEval?, ← h, evalPoly_const]
  | t :: ts, p, h => by
    simp only [Tree.prodPoly?, Option.bind_eq_bind, Option.bind_eq_some_iff, Option.pure_def, Option.some.injEq] at h
    obtain ⟨q, hq, r, hr, rfl⟩ := h
    simp only [Tree.prodEval?, Tree.toPoly?_exact ρ t q hq, Tree.prodPoly?_exact ρ ts r hr, evalPoly_mul,
      Option.bind_eq_bind, Option.bind_some, Option.pure_def]
end
end NgoVerif.MathSimp
