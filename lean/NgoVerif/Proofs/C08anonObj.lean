import NgoVerif.Proofs.C08anon
/-!
# `cleanup` in an objective: deleting a weaker copy of a body literal keeps the cost tuples

`:~ …, p(s̄), p(t̄), … . [w@p, t̄']` and the statement without `p(t̄)` contribute the same ground tuples in EVERY total
interpretation (`p(t̄)` weaker than `p(s̄)` as in `Proofs/C08anon.lean`).
-/
namespace NgoVerif.Proofs.C08anonObj
open NgoVerif.Sem NgoVerif.Proofs.C08anon

variable {P : PParams}

structure ObjAnon where
  line : Nat
  col : Nat
  weight : Term
  prio : Term
  terms : List Term
  body : List BLit          -- the body after the deletion
  pn : String
  sargs : List Term
  targs : List Term
  F : List String

namespace ObjAnon
def pLit (A : ObjAnon) : BLit := .lit (.pos, .sym (.fn A.pn A.sargs false))
def qLit (A : ObjAnon) : BLit := .lit (.pos, .sym (.fn A.pn A.targs false))
def src (A : ObjAnon) : Stm := .minimize A.line A.col A.weight A.prio A.terms (A.qLit :: A.body)
def res (A : ObjAnon) : Stm := .minimize A.line A.col A.weight A.prio A.terms A.body
def tupleVars (A : ObjAnon) : List String := (A.weight :: A.prio :: A.terms).flatMap Term.vars
end ObjAnon

theorem weaker_costTuples {F : List String} {ss ts : List Term} (hw : Weaker F ss ts) {pn : String} {body : List BLit}
    (hp : BLit.lit (.pos, .sym (.fn pn ss false)) ∈ body) (hb : ∀ v ∈ body.flatMap BLit.vars, v ∉ F)
    {w p : Term} {tt : List Term} (ht : ∀ v ∈ (w :: p :: tt).flatMap Term.vars, v ∉ F) (l c : Nat) (T : Interp)
    (tup : Sym × Sym × List Sym) :
    costTuples P T (.minimize l c w p tt (.lit (.pos, .sym (.fn pn ts false)) :: body)) tup ↔
      costTuples P T (.minimize l c w p tt body) tup := by
  -- the sets of global variables differ on `F` only, and no variable of `F` stands inside a local scope
  have hG : ∀ v, v ∉ F → (v ∈ bodyGlobals (.lit (.pos, .sym (.fn pn ts false)) :: body) ++ (w :: p :: tt).flatMap Term.vars ↔
      v ∈ bodyGlobals body ++ (w :: p :: tt).flatMap Term.vars) :=
    fun v hv => by simp only [List.mem_append, weaker_bodyGlobals hw hp hv]
  have hB := fun e => bodySat_gcongr (P := P.toParams) (H := T) (T := T) (e := e) fun v hv =>
    hG v (hb v (bodyScoped_sub v hv))
  simp only [List.flatMap_cons, List.forall_mem_append] at ht
  simp only [costTuples, bodySat_cons, blitSat_lit, hB]
  exact weaker_body_exists hw hp hb fun e e' hag => by
    rw [evalTerm_congr fun v hv => hag v (ht.1 v hv), evalTerm_congr fun v hv => hag v (ht.2.1 v hv),
      evalTerms_congr fun v hv => hag v (ht.2.2 v hv)]

def objCheck (A : ObjAnon) : Bool :=
  blitMem A.pLit A.body && A.targs.length == A.sargs.length &&
  A.F.all (fun v => !(A.body.flatMap BLit.vars).contains v && !A.tupleVars.contains v) &&
  (A.targs.zip A.sargs).all (fun p => termEqb p.1 p.2 || isFresh A.F p.1) && decide (freshNames A.F A.targs).Nodup

theorem obj_costs_of_check {A : ObjAnon} (h : objCheck A = true) (T : Interp) (tup : Sym × Sym × List Sym) :
    costTuples P T A.src tup ↔ costTuples P T A.res tup := by
  obtain ⟨hm, hw, hb, ht⟩ := check_sound h fun hm => vars_sub_of_mem_body (blitMem_mem hm)
  exact weaker_costTuples hw (blitMem_mem hm) hb ht A.line A.col T tup

end NgoVerif.Proofs.C08anonObj
