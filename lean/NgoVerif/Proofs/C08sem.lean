import NgoVerif.Sem.Program
import NgoVerif.Model.Cleanup
/-!
# The boolean part of `cleanup` (`remove_boolean` as modelled in `Model/Cleanup.lean`) against the HT denotation:
`#true` literals are dropped, elements / conditional literals whose condition contains `#false` are dropped, and a
statement is dropped only if its body can never hold — for every environment, HT pair and semantic parameters.  The
global variables of the body are kept as well, so that the cleaned body can stand for the old one in any statement
(`BodyEq`).

The namespace `NgoVerif.Proofs.StrongEq` (which `Proofs/C05sem.lean` fills as well) has the statement level: the two
hypotheses of `Sem.strongEq_of_filterMap`.
-/
namespace NgoVerif.Proofs.C08sem
open NgoVerif.Sem NgoVerif.Cleanup

variable {P : Params}

theorem litTrue_bool {l : Lit} (h : litTrue l = true) : ∃ s b, l = (s, Atom.bool b) := by
  obtain ⟨s, a⟩ := l
  cases a with
  | bool b => exact ⟨s, b, rfl⟩
  | _ => cases s <;> cases h

theorem litTrue_sat {G : String → Prop} {e : Env} {H T : Interp} {l : Lit} (h : litTrue l = true) :
    litSat P G e H T l := by
  obtain ⟨s, b, rfl⟩ := litTrue_bool h
  cases s <;> simpa only [litTrue, litSat, atomSat, Bool.not_eq_true'] using h

theorem litFalse_unsat {G : String → Prop} {e : Env} {H T : Interp} {l : Lit} (h : litFalse l = true) :
    ¬ litSat P G e H T l := by
  obtain ⟨s, a⟩ := l
  cases a with
  | bool b => cases s <;> simpa only [litFalse, litSat, atomSat, Bool.not_eq_true', Bool.not_eq_true, Bool.not_eq_false] using h
  | _ => cases s <;> cases h

theorem removeTrueLits_sat {G : String → Prop} {e : Env} {H T : Interp} {c : List Lit} :
    litsSat P G e H T (removeTrueLits c) ↔ litsSat P G e H T c := by
  simp only [litsSat_iff, removeTrueLits, List.mem_filter]
  refine ⟨fun h l hl => ?_, fun h l hl => h l hl.1⟩
  cases ht : litTrue l
  · exact h l ⟨hl, by rw [ht]; rfl⟩
  · exact litTrue_sat ht

theorem containsFalseLits_unsat {G : String → Prop} {e : Env} {H T : Interp} {c : List Lit}
    (h : containsFalseLits c = true) : ¬ litsSat P G e H T c := by
  obtain ⟨l, hl, hf⟩ := List.any_eq_true.mp h
  exact fun hs => litFalse_unsat hf (litsSat_iff.mp hs l hl)

theorem cleanCond_unsat {c : List Lit} (h : containsFalseLits (removeTrueLits c) = true) {G : String → Prop} {e : Env}
    {H T : Interp} : ¬ litsSat P G e H T c :=
  fun hc => containsFalseLits_unsat h (removeTrueLits_sat.mpr hc)

/-- the element filter of `cleanupBooleanAggregates` -/
theorem bTuples_clean {G : String → Prop} {e : Env} {H T : Interp} {es : List BAggElem} (tup : List Sym) :
    bTuples P G e H T (es.filterMap fun (ts, cond) =>
        let cond' := removeTrueLits cond
        if containsFalseLits cond' then none else some (ts, cond')) tup ↔ bTuples P G e H T es tup := by
  rw [List.filterMap_eq_flatMap]
  refine bTuples_flatMap _ (fun x _ tup => ?_) tup
  by_cases hf : containsFalseLits (removeTrueLits x.2) = true
  · simp only [hf, if_true, Option.toList, bTuples, cleanCond_unsat hf, and_false, exists_false, or_false]
  · simp only [hf, Bool.false_eq_true, if_false, Option.toList, bTuples, removeTrueLits_sat]

theorem blitTrue_sat {G : String → Prop} {e : Env} {H T : Interp} :
    ∀ {l : BLit}, blitTrue l = true → blitSat P G e H T l
  | .lit _, h => litTrue_sat h
  | .clit (_, []), h => fun _ _ => ⟨fun _ => litTrue_sat h, fun _ => litTrue_sat h⟩
  | .clit (l, _ :: _), h => by cases h

theorem blitFalse_unsat {G : String → Prop} {e : Env} {H T : Interp} :
    ∀ {l : BLit}, blitFalse l = true → ¬ blitSat P G e H T l
  | .lit _, h => litFalse_unsat h
  | .clit (_, []), h => fun hs => litFalse_unsat h ((hs e (fun _ _ => rfl)).1 trivial)
  | .clit (l, _ :: _), h => by cases h

theorem blitTrue_no_globals : ∀ {x : BLit}, blitTrue x = true → blitGlobals x = []
  | .clit _, _ => rfl
  | .lit l, h => by obtain ⟨s, b, rfl⟩ := litTrue_bool (l := l) h; rfl

theorem containsFalseBLits_unsat {G : String → Prop} {e : Env} {H T : Interp} {b : List BLit}
    (h : containsFalseBLits b = true) : ¬ bodySat P G e H T b := by
  obtain ⟨l, hl, hf⟩ := List.any_eq_true.mp h
  exact fun hs => blitFalse_unsat hf (hs l hl)

theorem cleanupBooleanAggregates_bodyEq {b : List BLit} : BodyEq P (cleanupBooleanAggregates b) b := by
  rw [cleanupBooleanAggregates, List.map_eq_flatMap]
  refine .flatMap _ fun x _ => ?_
  split
  next s l c lg f es rg _ =>
    exact .one (fun _ => Iff.rfl) fun G e H T =>
      litSat_bagg_congr s l c lg rg f fun _ => bTuples_clean
  next => exact .refl _

theorem cleanupBooleanConditionals_bodyEq {b : List BLit} : BodyEq P (cleanupBooleanConditionals b) b := by
  rw [cleanupBooleanConditionals, List.filterMap_eq_flatMap]
  refine .flatMap _ fun x _ => ?_
  split
  next l c _ =>
    dsimp only
    split
    next hf =>
      -- a conditional literal whose condition can never hold says nothing
      exact .single (fun _ => Iff.rfl) fun G e H T => ⟨fun _ e' _ => ⟨fun hc => absurd hc (cleanCond_unsat hf),
        fun hc => absurd hc (cleanCond_unsat hf)⟩, fun _ => bodySat_nil⟩
    next =>
      exact .one (fun _ => Iff.rfl) fun G e H T =>
        condLitSat_congr_cond l fun _ _ _ => removeTrueLits_sat
  next => exact .refl _

theorem removeTrueBLits_bodyEq {b : List BLit} : BodyEq P (removeTrueBLits b) b := by
  rw [removeTrueBLits, List.filter_eq_flatMap]
  refine .flatMap _ fun x _ => ?_
  cases h : blitTrue x
  · exact .refl _
  · exact .single (fun _ => by rw [blitTrue_no_globals h]; exact Iff.rfl)
      fun _ _ _ _ => ⟨fun _ => blitTrue_sat h, fun _ => bodySat_nil⟩

theorem passes_bodyEq {b : List BLit} :
    BodyEq P (removeTrueBLits (cleanupBooleanConditionals (cleanupBooleanAggregates b))) b :=
  removeTrueBLits_bodyEq.trans (cleanupBooleanConditionals_bodyEq.trans cleanupBooleanAggregates_bodyEq)

theorem removeBooleanBody_bodyEq {b b' : List BLit} (h : removeBooleanBody b = some b') : BodyEq P b' b := by
  unfold removeBooleanBody at h
  obtain rfl := Option.some.inj (Option.ite_none_left_eq_some.mp h).2
  exact passes_bodyEq

theorem not_bodySat_of_removeBooleanBody_none {b : List BLit} (h : removeBooleanBody b = none) {G : String → Prop}
    {e : Env} {H T : Interp} : ¬ bodySat P G e H T b := by
  unfold removeBooleanBody at h
  dsimp only at h
  split at h
  next hf => exact fun hs => containsFalseBLits_unsat hf ((passes_bodyEq.sat G e H T).mpr hs)
  next => cases h

variable (P) in
theorem removeBooleanBody_sound (G : String → Prop) (e : Env) (H T : Interp) (b : List BLit) :
    match removeBooleanBody b with
    | some b' => (bodySat P G e H T b' ↔ bodySat P G e H T b)
    | none => ¬ bodySat P G e H T b := by
  cases h : removeBooleanBody b with
  | some b' => exact (removeBooleanBody_bodyEq h).sat G e H T
  | none => exact not_bodySat_of_removeBooleanBody_none h

end NgoVerif.Proofs.C08sem

namespace NgoVerif.Proofs.StrongEq
open NgoVerif.Sem NgoVerif.Cleanup NgoVerif.Proofs.C08sem

variable {P : PParams}

theorem stmSat_removeBoolean {s s' : Stm} (h : removeBoolean s = some s') (H T : Interp) :
    stmSat P H T s' ↔ stmSat P H T s := by
  cases s with
  | rule l c hd b =>
    obtain ⟨b', hb, rfl⟩ := Option.map_eq_some_iff.mp h
    exact (removeBooleanBody_bodyEq hb).stmSat_congr hd H T
  | minimize l c w p ts b => obtain ⟨b', _, rfl⟩ := Option.map_eq_some_iff.mp h; exact Iff.rfl
  | _ => obtain rfl := Option.some.inj h; exact Iff.rfl

theorem stmSat_of_removeBoolean_none {s : Stm} (h : removeBoolean s = none) (H T : Interp) : stmSat P H T s := by
  cases s with
  | rule l c hd b =>
    have hb : removeBooleanBody b = none := Option.map_eq_none_iff.mp h
    exact fun e => ⟨fun hs => absurd hs (not_bodySat_of_removeBooleanBody_none hb),
      fun hs => absurd hs (not_bodySat_of_removeBooleanBody_none hb)⟩
  | _ => trivial

end NgoVerif.Proofs.StrongEq
