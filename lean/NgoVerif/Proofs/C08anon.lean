import NgoVerif.Sem.Head
import NgoVerif.Sem.DecEq
/-!
# `cleanup`: deleting a weaker copy of a body literal

`h :- …, p(s̄), p(t̄), … .`  becomes  `h :- …, p(s̄), … .`  when `p(t̄)` is `p(s̄)` with some arguments replaced by variables
that occur nowhere else in the rule (what `p(X), p(_)` is once the anonymous variables are renamed apart): whatever
`p(s̄)` matches, `p(t̄)` matches too.  The two rules have the same here-and-there models under the standard head semantics,
so the rewrite is a strong equivalence in ANY program (no fragment, aggregates and conditional literals allowed everywhere).

The argument is the same wherever the two literals stand side by side under one environment - in a rule body, in an
objective, in the condition of a conditional literal or of an aggregate element (`Proofs/C08anonCond.lean`,
`Proofs/C08anonObj.lean`): an environment that makes `p(s̄)` true can be changed on the fresh variables so that `p(t̄)` is
true as well (`weaker_litSat`), and nothing else that is evaluated under it looks at those variables
(`weaker_forall`, `weaker_exists`).
-/
namespace NgoVerif.Proofs.C08anon
open NgoVerif.Sem

variable (P : Params)

structure Anon where
  line : Nat
  col : Nat
  head : Head
  body : List BLit          -- the body after the deletion
  pn : String
  sargs : List Term
  targs : List Term
  F : List String           -- the variables of `p(t̄)` that occur nowhere else

namespace Anon
def pLit (A : Anon) : BLit := .lit (.pos, .sym (.fn A.pn A.sargs false))
def qLit (A : Anon) : BLit := .lit (.pos, .sym (.fn A.pn A.targs false))
def src (A : Anon) : Stm := .rule A.line A.col A.head (A.qLit :: A.body)
def res (A : Anon) : Stm := .rule A.line A.col A.head A.body
end Anon

/-- `t̄` is `s̄` with some arguments replaced by variables of `F` -/
inductive Weaker (F : List String) : List Term → List Term → Prop
  | nil : Weaker F [] []
  | same {s ss ts} : (∀ v ∈ s.vars, v ∉ F) → Weaker F ss ts → Weaker F (s :: ss) (s :: ts)
  | fresh {v s ss ts} : v ∈ F → v ∉ ts.flatMap Term.vars → Weaker F ss ts → Weaker F (s :: ss) (.var v :: ts)

def upd (e : Env) (v : String) (x : Sym) : Env := fun w => if w = v then x else e w

theorem upd_of_not_mem (e : Env) {v : String} (x : Sym) {vs : List String} (h : v ∉ vs) : ∀ w ∈ vs, upd e v x w = e w :=
  fun w hw => if_neg fun hwv : w = v => h (hwv ▸ hw)

theorem evalTerm_upd (e : Env) (v : String) (x : Sym) (t : Term) (h : v ∉ t.vars) :
    evalTerm P (upd e v x) t = evalTerm P e t :=
  evalTerm_congr (upd_of_not_mem e x h)

theorem evalTerms_upd (e : Env) (v : String) (x : Sym) (ts : List Term) (h : v ∉ ts.flatMap Term.vars) :
    evalTerms P (upd e v x) ts = evalTerms P e ts :=
  evalTerms_congr (upd_of_not_mem e x h)

variable {P}

theorem mem_vars_weaker {F : List String} {ss ts : List Term} (hw : Weaker F ss ts) {v : String}
    (hv : v ∈ ts.flatMap Term.vars) : v ∈ ss.flatMap Term.vars ∨ v ∈ F := by
  induction hw with
  | nil => cases hv
  | same _ _ ih =>
    rw [List.flatMap_cons, List.mem_append] at hv ⊢
    exact hv.elim (fun h => .inl (.inl h)) fun h => (ih h).imp_left .inr
  | fresh hvF _ _ ih =>
    rw [List.flatMap_cons, List.mem_append, Term.vars, List.mem_singleton] at hv
    rw [List.flatMap_cons, List.mem_append]
    exact hv.elim (fun h => .inr (h ▸ hvF)) fun h => (ih h).imp_left .inr

theorem exists_env {F : List String} {ss ts : List Term} (hw : Weaker F ss ts) {e : Env} :
    ∀ vals, evalTerms P e ss = some vals → ∃ e', Agree (· ∉ F) e e' ∧ evalTerms P e' ts = some vals := by
  induction hw with
  | nil => exact fun vals h => ⟨e, fun _ _ => rfl, h⟩
  | @same s ss ts hs _ ih =>
    intro vals hv
    obtain ⟨x, xs, rfl, hx, hxs⟩ := evalTerms_cons_some hv
    obtain ⟨e', hag, hev⟩ := ih xs hxs
    refine ⟨e', hag, ?_⟩
    simp only [evalTerms, evalTerm_congr fun v hv => hag v (hs v hv), hx, hev]
  | @fresh v s ss ts hvF hnot _ ih =>
    intro vals hv
    obtain ⟨x, xs, rfl, hx, hxs⟩ := evalTerms_cons_some hv
    obtain ⟨e', hag, hev⟩ := ih xs hxs
    -- the variable put in takes the value of `s`; the arguments to its right do not mention it
    refine ⟨upd e' v x, fun w hw => (if_neg fun hwv : w = v => hw (hwv ▸ hvF)).trans (hag w hw), ?_⟩
    simp only [evalTerms, evalTerm, upd, if_true, evalTerms_upd P e' v x ts hnot, hev]

theorem weaker_litSat {F : List String} {ss ts : List Term} (hw : Weaker F ss ts) {pn : String} {G : String → Prop}
    (G' : String → Prop) {e : Env} {X T : Interp} (h : litSat P G e X T (.pos, .sym (.fn pn ss false))) :
    ∃ e', Agree (· ∉ F) e e' ∧ litSat P G' e' X T (.pos, .sym (.fn pn ts false)) := by
  obtain ⟨vals, hv, hX⟩ := litSat_pos_fn.mp h
  obtain ⟨e', hag, hev⟩ := exists_env hw vals hv
  exact ⟨e', hag, litSat_pos_fn.mpr ⟨vals, hev, hX⟩⟩

section absorb
variable {F : List String} {ss ts : List Term} {X T : Interp} {S C Ψ : Env → Prop}

/-! `S` is the range of the environment, `C` what stands next to `p(t̄)`, `p(s̄)` being
part of it (`hp`), `Ψ` what is said of the environment; none of them looks at the variables `F` (`hS`, `hC`, `hΨ`).
`G G'` are explicit: satisfaction of a plain atom unfolds to a statement in which they do not occur, so `hp` given as a
member of a `bodySat` does not determine them. -/

theorem weaker_forall (hw : Weaker F ss ts) {pn : String} (G G' : String → Prop)
    (hS : ∀ e e', Agree (· ∉ F) e e' → S e → S e') (hC : ∀ e e', Agree (· ∉ F) e e' → C e → C e')
    (hΨ : ∀ e e', Agree (· ∉ F) e e' → (Ψ e' ↔ Ψ e)) (hp : ∀ e, C e → litSat P G e X T (.pos, .sym (.fn pn ss false))) :
    (∀ e, S e → litSat P G' e X T (.pos, .sym (.fn pn ts false)) ∧ C e → Ψ e) ↔ ∀ e, S e → C e → Ψ e := by
  refine ⟨fun h e hs hc => ?_, fun h e hs hc => h e hs hc.2⟩
  obtain ⟨e', hag, hq⟩ := weaker_litSat hw G' (hp e hc)
  exact (hΨ e e' hag).mp (h e' (hS e e' hag hs) ⟨hq, hC e e' hag hc⟩)

theorem weaker_exists (hw : Weaker F ss ts) {pn : String} (G G' : String → Prop)
    (hS : ∀ e e', Agree (· ∉ F) e e' → S e → S e') (hC : ∀ e e', Agree (· ∉ F) e e' → C e → C e')
    (hΨ : ∀ e e', Agree (· ∉ F) e e' → (Ψ e' ↔ Ψ e)) (hp : ∀ e, C e → litSat P G e X T (.pos, .sym (.fn pn ss false))) :
    (∃ e, S e ∧ Ψ e ∧ litSat P G' e X T (.pos, .sym (.fn pn ts false)) ∧ C e) ↔ ∃ e, S e ∧ Ψ e ∧ C e := by
  refine ⟨fun ⟨e, hs, hψ, _, hc⟩ => ⟨e, hs, hψ, hc⟩, fun ⟨e, hs, hψ, hc⟩ => ?_⟩
  obtain ⟨e', hag, hq⟩ := weaker_litSat hw G' (hp e hc)
  exact ⟨e', hS e e' hag hs, (hΨ e e' hag).mpr hψ, hq, hC e e' hag hc⟩

end absorb

theorem weaker_bodyGlobals {F : List String} {pn : String} {ts ss : List Term} {b : List BLit} (hw : Weaker F ss ts)
    (hp : BLit.lit (.pos, .sym (.fn pn ss false)) ∈ b)
    {v : String} (hvF : v ∉ F) : v ∈ bodyGlobals (.lit (.pos, .sym (.fn pn ts false)) :: b) ↔ v ∈ bodyGlobals b := by
  refine ⟨fun h => (List.mem_append.mp h).elim (fun h => List.mem_flatMap.mpr ⟨_, hp, ?_⟩) id,
    fun h => List.mem_append_right _ h⟩
  rw [blitGlobals_fn] at h ⊢
  exact (mem_vars_weaker hw h).resolve_right hvF

section body
variable {F : List String} {ss ts : List Term} {body : List BLit} {Ψ : Env → Prop}

theorem weaker_body_forall (hw : Weaker F ss ts) {pn : String} (hp : BLit.lit (.pos, .sym (.fn pn ss false)) ∈ body)
    (hb : ∀ v ∈ body.flatMap BLit.vars, v ∉ F) {G G' : String → Prop} {X T : Interp}
    (hΨ : ∀ e e', Agree (· ∉ F) e e' → (Ψ e' ↔ Ψ e)) :
    (∀ e, litSat P G' e X T (.pos, .sym (.fn pn ts false)) ∧ bodySat P G e X T body → Ψ e) ↔
      ∀ e, bodySat P G e X T body → Ψ e := by
  simpa only [true_imp_iff] using weaker_forall hw G G' (S := fun _ => True) (hS := fun _ _ _ => id)
    (hC := fun e e' hag => (bodySat_congr fun v hv => hag v (hb v hv)).mpr) (hΨ := hΨ)
    (hp := fun _ he => he _ hp)

theorem weaker_body_exists (hw : Weaker F ss ts) {pn : String} (hp : BLit.lit (.pos, .sym (.fn pn ss false)) ∈ body)
    (hb : ∀ v ∈ body.flatMap BLit.vars, v ∉ F) {G G' : String → Prop} {X T : Interp}
    (hΨ : ∀ e e', Agree (· ∉ F) e e' → (Ψ e' ↔ Ψ e)) :
    (∃ e, (litSat P G' e X T (.pos, .sym (.fn pn ts false)) ∧ bodySat P G e X T body) ∧ Ψ e) ↔
      ∃ e, bodySat P G e X T body ∧ Ψ e := by
  simpa only [true_and, and_comm (b := Ψ _)] using weaker_exists hw G G' (S := fun _ => True) (hS := fun _ _ _ => id)
    (hC := fun e e' hag => (bodySat_congr fun v hv => hag v (hb v hv)).mpr) (hΨ := hΨ)
    (hp := fun _ he => he _ hp)

theorem weaker_rule (hw : Weaker F ss ts) {pn : String} (hp : BLit.lit (.pos, .sym (.fn pn ss false)) ∈ body)
    (hb : ∀ v ∈ body.flatMap BLit.vars, v ∉ F) {head : Head} (hh : ∀ v ∈ head.vars, v ∉ F) (l c : Nat) (H T : Interp) :
    stmSat (stdParams P) H T (.rule l c head (.lit (.pos, .sym (.fn pn ts false)) :: body)) ↔
      stmSat (stdParams P) H T (.rule l c head body) := by
  -- the global variables of the two rules differ on `F` only, and no variable of `F` stands inside a local scope
  have hG : ∀ v, v ∉ F → (v ∈ ruleGlobals (stdParams P) head (.lit (.pos, .sym (.fn pn ts false)) :: body) ↔
      v ∈ ruleGlobals (stdParams P) head body) :=
    fun v hv => by simp only [ruleGlobals, List.mem_append, weaker_bodyGlobals hw hp hv]
  have hB := fun X e => bodySat_gcongr (P := P) (H := X) (T := T) (e := e) fun v hv => hG v (hb v (bodyScoped_sub v hv))
  have hH := fun X e => stdHeadSat_gcongr (P := P) (H := X) (T := T) (e := e) fun v hv => hG v (hh v hv)
  simp only [stmSat_rule, stdParams_headSat, stdParams_toParams, bodySat_cons, blitSat_lit, hB, hH, forall_and]
  exact and_congr
    (weaker_body_forall hw hp hb fun e e' hag => stdHeadSat_congr fun v hv => hag v (hh v hv))
    (weaker_body_forall hw hp hb fun e e' hag => stdHeadSat_congr fun v hv => hag v (hh v hv))

end body

def isFresh (F : List String) : Term → Bool
  | .var v => F.contains v
  | _ => false

def fresh? (A : Anon) : Bool :=
  A.F.all fun v => !(A.body.flatMap BLit.vars).contains v && !A.head.vars.contains v

def freshNames (F : List String) : List Term → List String
  | [] => []
  | .var v :: ts => if F.contains v then v :: freshNames F ts else freshNames F ts
  | _ :: ts => freshNames F ts

theorem isFresh_eq_true {F : List String} {t : Term} (h : isFresh F t = true) : ∃ v, t = .var v ∧ v ∈ F := by
  cases t with
  | var v => exact ⟨v, rfl, List.contains_iff_mem.mp h⟩
  | _ => cases h

theorem freshNames_cons_fresh {F : List String} {v : String} (h : v ∈ F) (ts : List Term) :
    freshNames F (.var v :: ts) = v :: freshNames F ts := by
  rw [freshNames, if_pos (List.contains_iff_mem.mpr h)]

theorem freshNames_cons_of_not {F : List String} {t : Term} (h : ¬ isFresh F t = true) (ts : List Term) :
    freshNames F (t :: ts) = freshNames F ts := by
  cases t with
  | var v => rw [freshNames]; exact if_neg h
  | _ => rfl

/-- the second conjunct is what the induction needs to see that a variable put in does not occur further to the right -/
theorem Weaker.of_zip {F : List String} : ∀ {ts ss : List Term}, ts.length = ss.length →
    ((ts.zip ss).all fun p => termEqb p.1 p.2 || isFresh F p.1) = true → (freshNames F ts).Nodup →
    (∀ v ∈ ss.flatMap Term.vars, v ∉ F) →
    Weaker F ss ts ∧ ∀ v ∈ F, v ∈ ts.flatMap Term.vars → v ∈ freshNames F ts
  | [], [], _, _, _, _ => ⟨.nil, fun _ _ h => nomatch h⟩
  | t :: ts, s :: ss, hl, hpos, hnd, hF => by
    rw [List.zip_cons_cons, List.all_cons, Bool.and_eq_true, Bool.or_eq_true] at hpos
    rw [List.flatMap_cons, List.forall_mem_append] at hF
    by_cases hfr : isFresh F t = true
    · obtain ⟨w, rfl, hwF⟩ := isFresh_eq_true hfr
      rw [freshNames_cons_fresh hwF, List.nodup_cons] at hnd
      obtain ⟨hw, haux⟩ := of_zip (Nat.succ.inj hl) hpos.2 hnd.2 hF.2
      refine ⟨.fresh hwF (fun hm => hnd.1 (haux w hwF hm)) hw, fun v hvF hv => ?_⟩
      rw [List.flatMap_cons, Term.vars, List.singleton_append, List.mem_cons] at hv
      rw [freshNames_cons_fresh hwF, List.mem_cons]
      exact hv.imp_right (haux v hvF)
    · obtain rfl : t = s := termEqb_eq _ _ (hpos.1.resolve_right hfr)
      rw [freshNames_cons_of_not hfr] at hnd ⊢
      obtain ⟨hw, haux⟩ := of_zip (Nat.succ.inj hl) hpos.2 hnd hF.2
      refine ⟨.same hF.1 hw, fun v hvF hv => ?_⟩
      rw [List.flatMap_cons, List.mem_append] at hv
      exact hv.elim (fun h => absurd hvF (hF.1 v h)) (haux v hvF)

theorem fresh_of_all {F own other : List String}
    (h : (F.all fun v => !own.contains v && !other.contains v) = true) : (∀ v ∈ own, v ∉ F) ∧ ∀ v ∈ other, v ∉ F := by
  simp only [List.all_eq_true, Bool.and_eq_true, Bool.not_eq_true', ← Bool.not_eq_true, List.contains_iff_mem] at h
  exact ⟨fun v hv hF => (h v hF).1 hv, fun v hv hF => (h v hF).2 hv⟩

/-- `anonCheck`, `condCheck` and `objCheck` are this conjunction: `m` tests that `p(s̄)` stands in the shortened list, `own`
are the variables of that list, `other` those of the rest of the statement -/
theorem check_sound {m : Bool} {F own other : List String} {ts ss : List Term}
    (h : (m && ts.length == ss.length && (F.all fun v => !own.contains v && !other.contains v) &&
      ((ts.zip ss).all fun p => termEqb p.1 p.2 || isFresh F p.1) && decide (freshNames F ts).Nodup) = true)
    (hss : m = true → ∀ v ∈ ss.flatMap Term.vars, v ∈ own) :
    m = true ∧ Weaker F ss ts ∧ (∀ v ∈ own, v ∉ F) ∧ ∀ v ∈ other, v ∉ F := by
  simp only [Bool.and_eq_true, beq_iff_eq, decide_eq_true_eq] at h
  obtain ⟨⟨⟨⟨hm, hl⟩, hfr⟩, hpos⟩, hnd⟩ := h
  obtain ⟨hown, hother⟩ := fresh_of_all hfr
  exact ⟨hm, (Weaker.of_zip hl hpos hnd fun v hv => hown v (hss hm v hv)).1, hown, hother⟩

def anonCheck (A : Anon) : Bool :=
  blitMem A.pLit A.body && A.targs.length == A.sargs.length && fresh? A &&
  (A.targs.zip A.sargs).all (fun p => termEqb p.1 p.2 || isFresh A.F p.1) && decide (freshNames A.F A.targs).Nodup

theorem vars_sub_of_mem_body {pn : String} {ss : List Term} {b : List BLit}
    (hp : BLit.lit (.pos, .sym (.fn pn ss false)) ∈ b) : ∀ v ∈ ss.flatMap Term.vars, v ∈ b.flatMap BLit.vars :=
  fun v hv => List.mem_flatMap.mpr ⟨_, hp, show v ∈ litVars _ from (litVars_fn ..).symm ▸ hv⟩

theorem stmSat_of_anonCheck {A : Anon} (h : anonCheck A = true) (H T : Interp) :
    stmSat (stdParams P) H T A.src ↔ stmSat (stdParams P) H T A.res := by
  obtain ⟨hm, hw, hb, hh⟩ := check_sound h fun hm => vars_sub_of_mem_body (blitMem_mem hm)
  exact weaker_rule hw (blitMem_mem hm) hb hh A.line A.col H T

end NgoVerif.Proofs.C08anon
