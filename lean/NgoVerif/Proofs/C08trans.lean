import NgoVerif.Proofs.C08impl
/-!
# `cleanup`: implications followed through a chain of predicates (`transitive_closure`)

`p(s̄)` may imply `q(t̄)` because every rule deriving `p` carries `r(ū)` and every rule deriving `r` carries `q(w̄)`, with the
argument positions matching along the way.  An *argument map* says how the arguments of the implied atom are obtained from
the arguments of the implying one (position `i`, or a constant).  `entCheck fuel` follows such chains to depth `fuel`;
its answer `true` gives the semantic side condition of `C08impl.remove_implied` for supported interpretations.
-/
namespace NgoVerif.Proofs.C08trans
open NgoVerif.Sem NgoVerif.Proofs.C08impl

variable {P : Params}

inductive ArgSrc where
  | pos (i : Nat)
  | const (c : Sym)

def ArgSrc.eqb : ArgSrc → ArgSrc → Bool
  | .pos i, .pos j => i == j
  | .const a, .const b => symEqb a b
  | _, _ => false

theorem ArgSrc.eqb_eq : ∀ a b : ArgSrc, ArgSrc.eqb a b = true → a = b
  | .pos _, .pos _, h => congrArg _ (beq_iff_eq.mp h)
  | .const a, .const b, h => congrArg _ (symEqb_eq a b h)

def ArgSrc.get (vals : List Sym) : ArgSrc → Option Sym
  | .pos i => vals[i]?
  | .const c => some c

def applyMap : List ArgSrc → List Sym → Option (List Sym)
  | [], _ => some []
  | a :: as, vals =>
    match a.get vals, applyMap as vals with
    | some x, some xs => some (x :: xs)
    | _, _ => none

theorem applyMap_cons_some {a : ArgSrc} {as : List ArgSrc} {vals out : List Sym} (h : applyMap (a :: as) vals = some out) :
    ∃ x xs, out = x :: xs ∧ a.get vals = some x ∧ applyMap as vals = some xs := by
  simp only [applyMap] at h
  split at h
  · rename_i x xs hx hxs
    cases h
    exact ⟨x, xs, rfl, hx, hxs⟩
  · cases h

theorem applyMap_length : ∀ (m : List ArgSrc) (vals out : List Sym), applyMap m vals = some out → out.length = m.length
  | [], _, _, h => by
    cases h
    rfl
  | a :: as, vals, out, h => by
    obtain ⟨x, xs, rfl, _, hxs⟩ := applyMap_cons_some h
    rw [List.length_cons, List.length_cons, applyMap_length as vals xs hxs]

theorem applyMap_get {m : List ArgSrc} {vals out : List Sym} (h : applyMap m vals = some out) {j : Nat} {a : ArgSrc}
    (hj : m[j]? = some a) : a.get vals = out[j]? :=
  getElem?_of_cons_some (g := (applyMap · vals)) applyMap_cons_some h hj

def argSrc (hargs : List Term) (w : Term) : Option ArgSrc :=
  match hargs.findIdx? (fun h => termEqb h w) with
  | some i => some (.pos i)
  | none =>
    match w with
    | .sym c => some (.const c)
    | _ => none

theorem argSrc_get {e : Env} {hargs : List Term} {vals : List Sym} (hh : evalTerms P e hargs = some vals) {w : Term} {a : ArgSrc}
    (ha : argSrc hargs w = some a) : a.get vals = evalTerm P e w := by
  unfold argSrc at ha
  split at ha
  · rename_i i hi
    cases ha
    obtain ⟨hlt, hw, -⟩ := List.findIdx?_eq_some_iff_getElem.mp hi
    rw [← termEqb_eq _ _ hw]
    exact (evalTerms_getElem? hh (List.getElem?_eq_getElem hlt)).symm
  · split at ha
    · cases ha
      simp only [ArgSrc.get, evalTerm]
    · cases ha

def mapOfArgs (hargs : List Term) : List Term → Option (List ArgSrc)
  | [] => some []
  | w :: ws =>
    match argSrc hargs w, mapOfArgs hargs ws with
    | some a, some as => some (a :: as)
    | _, _ => none

/-- in the deriving rule this reads the carried literal's arguments off the derived atom, in the using rule it gives the
deleted literal's arguments from those of `p(s̄)` -/
theorem mapOfArgs_apply {e : Env} {hargs : List Term} {vals : List Sym} (hh : evalTerms P e hargs = some vals) :
    ∀ {ws : List Term} {m : List ArgSrc}, mapOfArgs hargs ws = some m → applyMap m vals = evalTerms P e ws
  | [], m, hm => by
    cases hm
    simp only [applyMap, evalTerms]
  | w :: ws, m, hm => by
    simp only [mapOfArgs] at hm
    split at hm
    · rename_i a as ha has
      cases hm
      simp only [applyMap, evalTerms, argSrc_get hh ha, mapOfArgs_apply hh has]
      -- the same `match` on both sides, once as the auxiliary definition of `applyMap` and once as that of `evalTerms`
      rfl
    · cases hm

def composeArg (m1 : List ArgSrc) : ArgSrc → Option ArgSrc
  | .const c => some (.const c)
  | .pos j => m1[j]?

def compose (m2 m1 : List ArgSrc) : Option (List ArgSrc) :=
  match m2 with
  | [] => some []
  | a :: as =>
    match composeArg m1 a, compose as m1 with
    | some b, some bs => some (b :: bs)
    | _, _ => none

theorem composeArg_get {m1 : List ArgSrc} {vals mid : List Sym} (h1 : applyMap m1 vals = some mid) {a b : ArgSrc}
    (hb : composeArg m1 a = some b) : b.get vals = a.get mid := by
  cases a with
  | const c =>
    cases hb
    rfl
  | pos j => exact applyMap_get h1 hb

theorem compose_apply {m1 : List ArgSrc} {vals mid : List Sym} (h1 : applyMap m1 vals = some mid) :
    ∀ {m2 m : List ArgSrc}, compose m2 m1 = some m → applyMap m vals = applyMap m2 mid
  | [], m, hc => by
    cases hc
    simp only [applyMap]
  | a :: as, m, hc => by
    simp only [compose] at hc
    split at hc
    · rename_i b bs hb hbs
      cases hc
      simp only [applyMap, composeArg_get h1 hb, compose_apply h1 hbs]
    · cases hc

def mapEqb : List ArgSrc → List ArgSrc → Bool
  | [], [] => true
  | a :: as, b :: bs => ArgSrc.eqb a b && mapEqb as bs
  | _, _ => false

theorem mapEqb_eq : ∀ a b : List ArgSrc, mapEqb a b = true → a = b
  | [], [], _ => rfl
  | a :: as, b :: bs, h => by
    simp only [mapEqb, Bool.and_eq_true] at h
    rw [ArgSrc.eqb_eq a b h.1, mapEqb_eq as bs h.2]

/-- a map `m2` with `compose m2 m1 = m`, if the obvious one works: each target is found among the sources of `m1` -/
def pullArg (m1 : List ArgSrc) (a : ArgSrc) : Option ArgSrc :=
  match m1.findIdx? (fun b => ArgSrc.eqb b a) with
  | some j => some (.pos j)
  | none =>
    match a with
    | .const c => some (.const c)
    | .pos _ => none

def pullback (m1 : List ArgSrc) : List ArgSrc → Option (List ArgSrc)
  | [] => some []
  | a :: as =>
    match pullArg m1 a, pullback m1 as with
    | some b, some bs => some (b :: bs)
    | _, _ => none

variable (P) in
def Ent (prg : Prog) (p : String) (k : Nat) (q : String) (m : List ArgSrc) : Prop :=
  ∀ X T, Supp P prg X T → ∀ vals : List Sym, vals.length = k → X ⟨p, vals⟩ → ∃ qv, applyMap m vals = some qv ∧ X ⟨q, qv⟩

/-- the literal IS a `q`-literal with the map `m`, or (with fuel left) a literal of another predicate `r` from which `q`
follows -/
def litYields (rec : String → Nat → List ArgSrc → Bool) (hargs : List Term) (q : String) (m : List ArgSrc) : Lit → Bool
  | (.pos, .sym (.fn r uargs false)) =>
    match mapOfArgs hargs uargs with
    | some m1 =>
      (r == q && mapEqb m1 m) ||
        (match pullback m1 m with
         | some m2 => (match compose m2 m1 with
             | some m' => mapEqb m' m && rec r uargs.length m2
             | none => false)
         | none => false)
    | none => false
  | _ => false

def stmYields (rec : String → Nat → List ArgSrc → Bool) (p : String) (k : Nat) (q : String) (m : List ArgSrc) : Stm → Bool
  | .rule _ _ (.lit (.pos, .sym (.fn n hargs false))) b =>
    if n == p && hargs.length == k then
      b.any fun l =>
        match l with
        | .lit l' => litYields rec hargs q m l'
        | _ => false
    else true
  | .rule _ _ (.agg _ elems _) b =>
    elems.all fun cl =>
      match cl.1 with
      | (.pos, .sym (.fn n hargs false)) =>
        if n == p && hargs.length == k then
          (cl.2.any fun l => litYields rec hargs q m l) ||
            b.any fun l =>
              match l with
              | .lit l' => litYields rec hargs q m l'
              | _ => false
        else true
      | _ => true
  | _ => true

/-- chains of length at most `fuel + 1` -/
def entCheck (prg : Prog) (q : String) : Nat → String → Nat → List ArgSrc → Bool
  | 0, p, k, m => prg.all (stmYields (fun _ _ _ => false) p k q m)
  | fuel + 1, p, k, m => prg.all (stmYields (fun r kr m2 => entCheck prg q fuel r kr m2) p k q m)

theorem litYields_shape {rec : String → Nat → List ArgSrc → Bool} {hargs : List Term} {q : String} {m : List ArgSrc} {l : Lit}
    (hy : litYields rec hargs q m l = true) : ∃ r uargs, l = (.pos, .sym (.fn r uargs false)) := by
  unfold litYields at hy
  split at hy
  · exact ⟨_, _, rfl⟩
  · cases hy

/-- `pullback` only proposes `m2`: what the answer rests on is that `m2` composes with `m1` to `m` -/
theorem litYields_pos_fn {rec : String → Nat → List ArgSrc → Bool} {hargs uargs : List Term} {q r : String} {m : List ArgSrc}
    (hy : litYields rec hargs q m (.pos, .sym (.fn r uargs false)) = true) :
    ∃ m1, mapOfArgs hargs uargs = some m1 ∧
      (r = q ∧ m1 = m ∨ ∃ m2, compose m2 m1 = some m ∧ rec r uargs.length m2 = true) := by
  simp only [litYields] at hy
  split at hy
  · rename_i m1 hm1
    refine ⟨m1, hm1, ?_⟩
    simp only [Bool.or_eq_true, Bool.and_eq_true, beq_iff_eq] at hy
    refine hy.imp (fun h => ⟨h.1, mapEqb_eq _ _ h.2⟩) fun hvia => ?_
    split at hvia
    · rename_i m2 _
      split at hvia
      · rename_i m' hc
        rw [Bool.and_eq_true] at hvia
        exact ⟨m2, mapEqb_eq _ _ hvia.1 ▸ hc, hvia.2⟩
      · cases hvia
    · cases hvia
  · cases hy

theorem litYields_sound {prg : Prog} {rec : String → Nat → List ArgSrc → Bool} {q : String}
    (hrec : ∀ r kr m2, rec r kr m2 = true → Ent P prg r kr q m2)
    {hargs uargs : List Term} {m : List ArgSrc} {r : String} (hy : litYields rec hargs q m (.pos, .sym (.fn r uargs false)) = true)
    {e' : Env} {vals uv : List Sym} (hh : evalTerms P e' hargs = some vals) (huv : evalTerms P e' uargs = some uv)
    {X T : Interp} (hsupp : Supp P prg X T) (hXa : X ⟨r, uv⟩) : ∃ qv, applyMap m vals = some qv ∧ X ⟨q, qv⟩ := by
  obtain ⟨m1, hm1, hy⟩ := litYields_pos_fn hy
  have hmid : applyMap m1 vals = some uv := (mapOfArgs_apply hh hm1).trans huv
  rcases hy with ⟨rfl, rfl⟩ | ⟨m2, hc, hr⟩
  · exact ⟨uv, hmid, hXa⟩
  · obtain ⟨qv, hqv, hXq⟩ := hrec r uargs.length m2 hr X T hsupp uv (evalTerms_length huv) hXa
    exact ⟨qv, (compose_apply hmid hc).trans hqv, hXq⟩

theorem stmYields_eq (rec : String → Nat → List ArgSrc → Bool) (p : String) (k : Nat) (q : String) (m : List ArgSrc) :
    stmYields rec p k q m = stmCarries (fun hargs => litYields rec hargs q m) p k := rfl

theorem stmYields_sound {prg : Prog} {rec : String → Nat → List ArgSrc → Bool} {q : String}
    (hrec : ∀ r kr m2, rec r kr m2 = true → Ent P prg r kr q m2) {p : String} {k : Nat} {m : List ArgSrc}
    (hall : ∀ s ∈ prg, stmYields rec p k q m s = true) : Ent P prg p k q m := by
  intro X T hsupp vals hlen hX
  obtain ⟨hargs, r, uargs, e', uv, hy, hhv, huv, hXa⟩ := carried_of_derives litYields_shape
    (stmYields_eq rec p k q m ▸ hall) hlen (hsupp _ hX)
  exact litYields_sound hrec hy hhv huv hsupp hXa

theorem entCheck_sound {prg : Prog} {q : String} : ∀ {fuel : Nat} {p : String} {k : Nat} {m : List ArgSrc},
    entCheck prg q fuel p k m = true → Ent P prg p k q m
  | 0, _, _, _, h => by
    simp only [entCheck, List.all_eq_true] at h
    exact stmYields_sound (fun _ _ _ hf => by cases hf) h
  | _ + 1, _, _, _, h => by
    simp only [entCheck, List.all_eq_true] at h
    exact stmYields_sound (fun _ _ _ hr => entCheck_sound hr) h

def impliedCheckT (fuel : Nat) (R : Rewrite) : Bool :=
  R.src.all okStm && blitMem R.pLit R.body && qVarsOk R &&
  (match mapOfArgs R.pargs R.qargs with
   | some m => entCheck R.src R.qn fuel R.pn R.pargs.length m
   | none => false)

theorem impliedCheckT_sound {fuel : Nat} {R : Rewrite} (h : impliedCheckT fuel R = true) : Ok R.src ∧ Implied P R := by
  simp only [impliedCheckT, Bool.and_eq_true, List.all_eq_true] at h
  obtain ⟨⟨⟨hok, hp⟩, hqv⟩, hent⟩ := h
  refine ⟨hok, blitMem_mem hp, impliedCheck_globals hqv, ?_⟩
  split at hent
  · rename_i m hm
    intro e vals hv X T hsupp hX
    rw [← mapOfArgs_apply hv hm]
    exact entCheck_sound hent X T hsupp vals (evalTerms_length hv) hX
  · cases hent

end NgoVerif.Proofs.C08trans
