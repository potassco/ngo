import NgoVerif.Model.Cleanup
/-!
# The search of `_superseeded` through the recorded mappings (`anyFits` over `fitsMapping`, `Model/Cleanup.lean`)

The answer `true` comes from a mapping of the list that fits, and a mapping fits only if its guard holds: same two
predicates, same sign (used for `C08_sign_respected`).  Conversely a fitting mapping is found unless a lookup errs
before it is reached, so an error-free search depends on the list only as a set (used for `C17_superseeds_order`).
-/
namespace NgoVerif
open Cleanup

theorem fitsMapping_guard {m : Mapping} {lp rp : Pred} {s : Sign} {la ra : List Term}
    (h : fitsMapping m lp rp s la ra = .ok true) :
    m.headPred = lp ∧ m.bodyPred.pred = rp ∧ m.bodyPred.sign = s := by
  unfold fitsMapping at h
  split at h
  · rename_i hg
    simp only [Bool.and_eq_true, beq_iff_eq] at hg
    exact ⟨hg.1.1, hg.1.2, hg.2⟩
  · cases h

theorem anyFits_cons_ok {lp rp : Pred} {s : Sign} {la ra : List Term} {m : Mapping} {b : Bool}
    (hb : fitsMapping m lp rp s la ra = .ok b) (ms : List Mapping) :
    anyFits lp rp s la ra (m :: ms) = if b then .ok true else anyFits lp rp s la ra ms := by
  rw [anyFits, hb]
  rfl

theorem anyFits_exists {lp rp : Pred} {s : Sign} {la ra : List Term} :
    ∀ {ms : List Mapping}, anyFits lp rp s la ra ms = .ok true → ∃ m ∈ ms, fitsMapping m lp rp s la ra = .ok true
  | [], h => by cases h
  | m :: ms, h => by
    cases hf : fitsMapping m lp rp s la ra with
    | error e =>
      rw [anyFits, hf] at h
      cases h
    | ok b =>
      rw [anyFits_cons_ok hf] at h
      cases b with
      | true => exact ⟨m, List.mem_cons_self, hf⟩
      | false =>
        obtain ⟨m', hm', hf'⟩ := anyFits_exists h
        exact ⟨m', List.mem_cons_of_mem _ hm', hf'⟩

theorem anyFits_of_fits {lp rp : Pred} {s : Sign} {la ra : List Term} {m : Mapping}
    (hm : fitsMapping m lp rp s la ra = .ok true) :
    ∀ {ms : List Mapping}, (∀ m' ∈ ms, ∃ b, fitsMapping m' lp rp s la ra = .ok b) → m ∈ ms →
      anyFits lp rp s la ra ms = .ok true
  | m' :: ms, hok, hmem => by
    obtain ⟨b, hb⟩ := hok m' List.mem_cons_self
    rw [anyFits_cons_ok hb]
    cases b with
    | true => rfl
    | false =>
      have : m ∈ ms := (List.mem_cons.mp hmem).resolve_left fun e => by rw [e, hb] at hm; cases hm
      exact anyFits_of_fits hm (fun m'' h => hok m'' (List.mem_cons_of_mem _ h)) this

theorem anyFits_mono {lp rp : Pred} {s : Sign} {la ra : List Term} {ms ms' : List Mapping} (hsub : ∀ m ∈ ms, m ∈ ms')
    (hok : ∀ m ∈ ms', ∃ b, fitsMapping m lp rp s la ra = .ok b) (h : anyFits lp rp s la ra ms = .ok true) :
    anyFits lp rp s la ra ms' = .ok true :=
  let ⟨m, hm, hf⟩ := anyFits_exists h
  anyFits_of_fits hf hok (hsub m hm)

end NgoVerif
