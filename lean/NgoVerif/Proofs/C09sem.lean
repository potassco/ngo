import NgoVerif.Sem.Head
import NgoVerif.Sem.Bridge
import NgoVerif.Meta.Fold
/-!
# Deleting the plain rules of a predicate nothing else mentions (`unused`), for typed programs, from syntax

`prg` is a list of typed statements, `n/k` a predicate.  Every statement is either a *defining rule* of `n`
(`n(t̄) :- B.` with `B` not mentioning `n`) or does not mention `n` at all (head, body, conditions, aggregate
elements, objective bodies).  Then, under the standard head semantics (`Sem/Head.lean`) and for every choice of the
arithmetic / comparison / aggregate parameters (aggregates persistent for `unused_complete`):

* every stable model of the program *without* the defining rules extends — by exactly the `n`-atoms the deleted rules
  derive from it — to a stable model of the whole program (`unused_sound`);
* every stable model of the whole program is such an extension, of its own restriction to the other predicates
  (`unused_complete`);
* the cost tuples of every objective and the terms every `#show t : B.` displays are the same in both (`unused_costs`,
  `unused_shown`).

So deleting the rules is invisible on every predicate but `n`: answer sets correspond one-to-one and keep their costs.
-/
namespace NgoVerif.Proofs.C09sem
open NgoVerif.Sem
open HT (SEq models_union models_defs_rules)

variable (P : Params)

def defRule (n : String) (k : Nat) : Stm → Bool
  | .rule _ _ (.lit (.pos, .sym (.fn m args false))) b => m == n && args.length == k && bodyAvoids (predSig n k) b
  | _ => false

def stmAvoids (n : Sig) : Stm → Bool
  | .rule _ _ h b => headAvoids n h && bodyAvoids n b
  | .minimize _ _ _ _ _ b => bodyAvoids n b
  | .showTerm _ b => bodyAvoids n b
  | _ => true

def Unused (n : String) (k : Nat) (prg : Prog) : Prop :=
  ∀ s ∈ prg, defRule n k s = true ∨ stmAvoids (predSig n k) s = true

/-- what the driver evaluates on the programs the real pass removed rules from -/
def unusedCheck (n : String) (k : Nat) (prg : Prog) : Bool :=
  prg.all fun s => defRule n k s || stmAvoids (predSig n k) s

def keep (n : String) (k : Nat) (prg : Prog) : Prog := prg.filter fun s => !defRule n k s

def dfn (n : String) (k : Nat) (prg : Prog) (a : GAtom) (H T : Interp) : Prop :=
  ∃ l c m args b, Stm.rule l c (.lit (.pos, .sym (.fn m args false))) b ∈ prg ∧ m = n ∧ args.length = k ∧
    bodyAvoids (predSig n k) b = true ∧
    ∃ e : Env, groundAtom P e (.fn m args false) = some a ∧
      bodySat P (fun v => v ∈ ruleGlobals (stdParams P) (.lit (.pos, .sym (.fn m args false))) b) e H T b

variable {P} in
theorem dfn_imp {n : String} {k : Nat} {prg : Prog} {a : GAtom} {H T H' T' : Interp}
    (h : ∀ G e b, bodyAvoids (predSig n k) b = true → bodySat P G e H T b → bodySat P G e H' T' b) :
    dfn P n k prg a H T → dfn P n k prg a H' T' := by
  rintro ⟨l, c, m, args, b, hm, hn, hk, hav, e, hg, hb⟩
  exact ⟨l, c, m, args, b, hm, hn, hk, hav, e, hg, h _ e b hav hb⟩

def defs (n : String) (k : Nat) (prg : Prog) : HT.Defs GAtom where
  A := named (predSig n k)
  dfn := dfn P n k prg
  indep := fun _ H T H' T' aH aT =>
    ⟨dfn_imp fun G e b hav => (@bodySat_indep P _ G b hav e H T H' T' aH aT).mp,
      dfn_imp fun G e b hav => (@bodySat_indep P _ G b hav e H T H' T' aH aT).mpr⟩

def extend (n : String) (k : Nat) (prg : Prog) (T : Interp) : Interp :=
  fun a => (¬ named (predSig n k) a ∧ T a) ∨ (named (predSig n k) a ∧ dfn P n k prg a T T)

theorem defRule_shape {n : String} {k : Nat} {s : Stm} (h : defRule n k s = true) :
    ∃ l c m args b, s = .rule l c (.lit (.pos, .sym (.fn m args false))) b ∧ m = n ∧ args.length = k ∧
      bodyAvoids (predSig n k) b = true := by
  unfold defRule at h
  split at h
  · rename_i l c m args b
    simp only [Bool.and_eq_true, beq_iff_eq] at h
    exact ⟨l, c, m, args, b, rfl, h.1.1, h.1.2, h.2⟩
  · cases h

section
variable {P}

theorem named_of_ground {n : String} {k : Nat} {m : String} {args : List Term} (hmn : m = n) (hk : args.length = k)
    {e : Env} {a : GAtom} (hg : groundAtom P e (.fn m args false) = some a) : named (predSig n k) a := by
  obtain ⟨_, _, vals, ht, hv, rfl⟩ := (groundAtom_eq_some).mp hg
  cases ht
  simp [named, predSig, evalTerms_length hv, hmn, hk]

theorem stmSat_indep {n : Sig} {s : Stm} (hav : stmAvoids n s = true) :
    HT.Indep (named n) fun H T => stmSat (stdParams P) H T s := by
  cases s with
  | rule l c h b =>
    simp only [stmAvoids, Bool.and_eq_true] at hav
    exact fun H T H' T' aH aT => forall_congr' fun e =>
      HT.indep_mkRule (fun _ _ _ _ => bodySat_indep hav.2) (fun _ _ _ _ => stdHeadSat_indep hav.1) H T H' T' aH aT
  | _ => exact fun _ _ _ _ _ _ => Iff.rfl

theorem denote_indep {n : Sig} {prg : Prog} (h : ∀ s ∈ prg, stmAvoids n s = true) :
    ∀ r, denote (stdParams P) prg r → HT.Indep (named n) r := by
  rintro r ⟨s, hs, rfl⟩
  exact stmSat_indep (h s hs)

theorem keep_indep {n : String} {k : Nat} {prg : Prog} (hu : Unused n k prg) :
    ∀ r, denote (stdParams P) (keep n k prg) r → HT.Indep (defs P n k prg).A r :=
  denote_indep fun s hs =>
    (hu s (List.mem_filter.mp hs).1).resolve_left (by simpa using (List.mem_filter.mp hs).2)

theorem dfn_closed {n : String} {k : Nat} {prg : Prog} {H T : Interp} (h : Models (stdParams P) prg H T) (a : GAtom) :
    (dfn P n k prg a H T → H a) ∧ (dfn P n k prg a T T → T a) := by
  constructor <;> rintro ⟨l, c, m, args, b, hmem, -, -, -, e, hg, hb⟩
  · exact stdParams_headSat_plain.mp ((h _ hmem e).1 hb) a hg
  · exact stdParams_headSat_plain.mp ((h _ hmem e).2 hb) a hg

/-- the presentation of the program to which definitional extension applies: kept statements ∪ definition of `n/k` -/
theorem seq_keep_defs (n : String) (k : Nat) (prg : Prog) :
    SEq (denote (stdParams P) prg) (HT.Union (denote (stdParams P) (keep n k prg)) (defs P n k prg).rules) := fun H T => by
  rw [models_union, models_denote, models_denote, models_defs_rules]
  refine ⟨fun h => ⟨fun s hs => h s (List.mem_filter.mp hs).1, fun a _ => dfn_closed h a⟩, fun ⟨hk, hd⟩ s hs => ?_⟩
  by_cases hdr : defRule n k s = true
  · -- a deleted rule: each of its instances is an instance of the definition
    obtain ⟨l, c, m, args, b, rfl, hmn, hk', hav⟩ := defRule_shape hdr
    exact fun e => ⟨fun hb => stdParams_headSat_plain.mpr fun a hg =>
        (hd a (named_of_ground hmn hk' hg)).1 ⟨l, c, m, args, b, hs, hmn, hk', hav, e, hg, hb⟩,
      fun hb => stdParams_headSat_plain.mpr fun a hg =>
        (hd a (named_of_ground hmn hk' hg)).2 ⟨l, c, m, args, b, hs, hmn, hk', hav, e, hg, hb⟩⟩
  · exact hk s (List.mem_filter.mpr ⟨hs, by simpa using hdr⟩)

theorem dfn_pers (hp : AggPersistent P) {n : String} {k : Nat} {prg : Prog} :
    ∀ a H T, HT.Sub H T → (defs P n k prg).dfn a H T → (defs P n k prg).dfn a T T :=
  fun _ _ _ hs => dfn_imp fun _ _ _ _ => bodySat_pers hp hs

end

variable {P} in
theorem unused_sound {n : String} {k : Nat} {prg : Prog} (hu : Unused n k prg) {T : Interp}
    (hT : Stable (stdParams P) (keep n k prg) T) : Stable (stdParams P) prg (extend P n k prg T) :=
  (stable_of_seq (seq_keep_defs n k prg) _).mpr <|
    HT.def_ext_sound (defs P n k prg) (keep_indep hu) ((stable_denote T).mpr hT)

variable {P} in
theorem unused_complete (hp : AggPersistent P) {n : String} {k : Nat} {prg : Prog} (hu : Unused n k prg) {T' : Interp}
    (hT' : Stable (stdParams P) prg T') :
    ∃ T, Stable (stdParams P) (keep n k prg) T ∧ (∀ a, T' a ↔ extend P n k prg T a) ∧
      (∀ a, ¬ named (predSig n k) a → (T a ↔ T' a)) := by
  have ⟨hT, hext⟩ := HT.def_ext_complete (defs P n k prg) (keep_indep hu) (dfn_pers hp)
    ((stable_of_seq (seq_keep_defs n k prg) T').mp hT')
  exact ⟨fun a => T' a ∧ ¬ named (predSig n k) a, (stable_denote _).mp hT, hext,
    HT.agreeOff_restrict (named (predSig n k)) T'⟩

theorem unused_costs (n : Sig) (s : Stm) (hav : stmAvoids n s = true) (T T' : Interp)
    (hag : AgreeOffName n T T') (x : Sym × Sym × List Sym) :
    costTuples (stdParams P) T s x ↔ costTuples (stdParams P) T' s x := by
  cases s with
  | minimize l c w p ts b =>
    exact exists_congr fun e => and_congr_left fun _ => bodySat_indep hav hag hag
  | _ => exact Iff.rfl

/-- the terms a `#show t : B.` statement displays in the answer set `T` -/
def shownTerms (T : Interp) : Stm → Sym → Prop
  | .showTerm t b, x => ∃ e : Env, bodySat P (fun v => v ∈ bodyGlobals b ++ t.vars) e T T b ∧ evalTerm P e t = some x
  | _, _ => False

theorem unused_shown (n : Sig) (s : Stm) (hav : stmAvoids n s = true) (T T' : Interp)
    (hag : AgreeOffName n T T') (x : Sym) : shownTerms P T s x ↔ shownTerms P T' s x := by
  cases s with
  | showTerm t b =>
    exact exists_congr fun e => and_congr_left fun _ => bodySat_indep hav hag hag
  | _ => exact Iff.rfl

end NgoVerif.Proofs.C09sem
