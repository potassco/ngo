import NgoVerif.Proofs.C16stm
import NgoVerif.Proofs.C11check
import NgoVerif.Sem.RenameStm
/-!
# `duplication`: factoring a literal set that occurs in several rules — for typed programs, from an executable check

The pass emits ONE auxiliary rule over canonical variable names, `aux(V̄) :- S.`, and replaces in every rule that
contains a renamed copy `σ S` of the set that copy by `aux(σ V̄)`.  For one place of use this is the rule split of
`projection` (`Proofs/C16stm.lean`) when the auxiliary rule is new (`factor_first_sound`, `factor_first_complete`), and a
fold against the definition that is already there for every further place (`factor_next`), once the canonical auxiliary
rule is identified with its renamed copy (`Sem/RenameStm.lean`).  Only `factor_first_complete` uses that aggregates are
persistent, the other two take `AggPersistent P` because `C16sem.Cond` bundles it.
-/
namespace NgoVerif.Proofs.C10stm
open NgoVerif.Sem NgoVerif.Proofs.C16sem NgoVerif.Proofs.C16stm

variable (P : Params)

structure Use where
  line : Nat
  col : Nat
  head : Head
  body : List BLit
  rest : List BLit
  auxName : String
  V : List String
  Sb : List BLit
  σ : String → String
  la : Nat
  ca : Nat

namespace Use
def split (u : Use) : Split :=
  { line := u.line, col := u.col, head := u.head, body := u.body, new := renameBody u.σ u.Sb, rest := u.rest,
    vs := u.V.map u.σ, auxName := u.auxName }
/-- the auxiliary rule as the pass emits it -/
def canon (u : Use) : Stm := .rule u.la u.ca (varAtomHead u.auxName u.V) u.Sb
end Use

variable {P} in
/-- `1 1` is the location of `u.split.auxRule` -/
theorem canon_iff_auxRule {u : Use} (hinv : ∀ v, u.σ (u.σ v) = v) (H T : Interp) :
    stmSat (stdParams P) H T u.canon ↔ stmSat (stdParams P) H T u.split.auxRule :=
  auxRule_rename (l' := 1) (c' := 1) hinv

variable {P} in
theorem canon_swap {u : Use} (hinv : ∀ v, u.σ (u.σ v) = v) (pre post : Prog) :
    StrongEq (stdParams P) (pre ++ u.canon :: post) (pre ++ u.split.auxRule :: post) :=
  StrongEq.replace (canon_iff_auxRule hinv) pre post

variable {P} in
theorem factor_next (hp : AggPersistent P) {u : Use} (hinv : ∀ v, u.σ (u.σ v) = v) (hok : Ok u.split) {pre post : Prog}
    (hctx : CtxOk u.split pre post) (T : Interp) :
    Stable (stdParams P) (pre ++ u.canon :: u.split.orig :: post) T ↔
      Stable (stdParams P) (pre ++ u.canon :: u.split.updRule :: post) T := by
  rw [(canon_swap hinv pre (u.split.orig :: post)).stable,
    (canon_swap hinv pre (u.split.updRule :: post)).stable]
  exact fold_existing_prog hp hok hctx T

theorem factor_first_sound (hp : AggPersistent P) (u : Use) (hinv : ∀ v, u.σ (u.σ v) = v) (hok : Ok u.split)
    (pre post : Prog) (hctx : CtxOk u.split pre post) (T : Interp)
    (hT : Stable (stdParams P) (pre ++ u.split.orig :: post) T) :
    Stable (stdParams P) (pre ++ u.canon :: u.split.updRule :: post)
      (extend (stdParams P) (fun v => v ∈ u.split.G0) u.split.syn T) := by
  rw [(canon_swap hinv pre (u.split.updRule :: post)).stable]
  exact split_sound_prog P hp u.split hok pre post hctx T hT

theorem factor_first_complete (hp : AggPersistent P) (u : Use) (hinv : ∀ v, u.σ (u.σ v) = v) (hok : Ok u.split)
    (pre post : Prog) (hctx : CtxOk u.split pre post) (T' : Interp)
    (hT' : Stable (stdParams P) (pre ++ u.canon :: u.split.updRule :: post) T') :
    ∃ T, Stable (stdParams P) (pre ++ u.split.orig :: post) T ∧
      ∀ a, T' a ↔ extend (stdParams P) (fun v => v ∈ u.split.G0) u.split.syn T a := by
  rw [(canon_swap hinv pre (u.split.updRule :: post)).stable] at hT'
  exact split_complete_prog P hp u.split hok pre post hctx T' hT'

/-- the renaming determined by the canonical head variables and the arguments of the auxiliary atom at the place of use -/
def useOf (line col : Nat) (head : Head) (body rest : List BLit) (auxName : String) (V args : List String) (Sb : List BLit)
    (la ca : Nat) : Use :=
  { line := line, col := col, head := head, body := body, rest := rest, auxName := auxName, V := V, Sb := Sb,
    σ := C11check.swaps (V.zip args), la := la, ca := ca }

def dupCheck (u : Use) (pairs : List (String × String)) (pre post : Prog) : Bool :=
  C11check.involOk pairs && splitCheck u.split && ctxCheck u.split pre post

theorem dupCheck_sound {u : Use} {pairs : List (String × String)} (hσ : u.σ = C11check.swaps pairs) {pre post : Prog}
    (h : dupCheck u pairs pre post = true) : (∀ v, u.σ (u.σ v) = v) ∧ Ok u.split ∧ CtxOk u.split pre post := by
  simp only [dupCheck, Bool.and_eq_true] at h
  exact ⟨hσ ▸ C11check.swaps_inv h.1.1, splitCheck_sound h.1.2, ctxCheck_sound h.2⟩

end NgoVerif.Proofs.C10stm
