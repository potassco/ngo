import NgoVerif.Spec.C18
import NgoVerif.SyntaxInduction
/-!
# `auto_detect_input` / `auto_detect_output` against `Spec/C18.lean`

Every list the model collects (`allPreds`, `derivablePreds`, `usedInBody`, the `#show` conditions) is the `.pred`-image
of a collector whose entries are the `Hit`s of a list of atoms of the specification (`mem_bodyPreds`, `mem_headPreds`,
`mem_headDerivable`); every predicate of the specification is "some atom of that list has a signature `p`".
`mem_map_pred` is the bridge between the two.
-/
namespace NgoVerif.Proofs.C18
open NgoVerif.Spec

def Hit (signs : List Sign) (atoms : List (Sign × Term)) (sp : SPred) : Prop :=
  ∃ x ∈ atoms, x.1 = sp.sign ∧ sp.sign ∈ signs ∧ symPred? x.2 = some sp.pred

theorem Hit.nil {signs sp} : ¬ Hit signs [] sp := by
  simp only [Hit, List.not_mem_nil, false_and, exists_false, not_false_eq_true]

variable {signs : List Sign} {sp : SPred}

theorem Hit.append {a b} : Hit signs (a ++ b) sp ↔ Hit signs a sp ∨ Hit signs b sp := by
  simp only [Hit, List.mem_append, or_and_right, exists_or]

theorem Hit.flatMap {α} {f : α → List (Sign × Term)} {l : List α} :
    Hit signs (l.flatMap f) sp ↔ ∃ a ∈ l, Hit signs (f a) sp := by
  simp only [Hit, List.mem_flatMap]
  constructor
  · rintro ⟨x, ⟨a, ha, hx⟩, h⟩; exact ⟨a, ha, x, hx, h⟩
  · rintro ⟨a, ha, x, hx, h⟩; exact ⟨x, ⟨a, ha, hx⟩, h⟩

theorem Hit.singleton {s : Sign} {t : Term} :
    sp ∈ (if signs.contains s then (match symPred? t with | some p => [(⟨s, p⟩ : SPred)] | none => []) else [])
      ↔ Hit signs [(s, t)] sp := by
  simp only [Hit, List.mem_singleton, exists_eq_left, List.contains_iff_mem]
  constructor
  · intro h
    split at h
    · split at h
      · obtain ⟨rfl, rfl⟩ := List.mem_singleton.mp h
        exact ⟨rfl, ‹_›, ‹_›⟩
      · cases h
    · cases h
  · rintro ⟨rfl, hs, hp⟩
    simp only [hs, hp, if_true, List.mem_singleton]

theorem mem_preds_family (signs : List Sign) (sp : SPred) :
    (∀ (a : Atom) (s : Sign), sp ∈ litPreds signs (s, a) ↔ Hit signs (atomAtoms s a) sp) ∧
    (∀ l : Lit, sp ∈ litPreds signs l ↔ Hit signs (litAtoms l) sp) ∧
    (∀ ls : List Lit, sp ∈ litsPreds signs ls ↔ Hit signs (litsAtoms ls) sp) ∧
    (∀ es : List BAggElem, sp ∈ bElemsPreds signs es ↔ Hit signs (bElemsAtoms es) sp) ∧
    ∀ es : List CondLit, sp ∈ cElemsPreds signs es ↔ Hit signs (cElemsAtoms es) sp := by
  apply atom_induct
  case sym =>
    intro t s
    simp only [litPreds, atomAtoms, atomAggPreds, List.append_nil]
    exact Hit.singleton
  case cmp | bool | theory =>
    intros
    simp only [litPreds, atomAggPreds, atomAtoms, List.append_nil, List.not_mem_nil, Hit.nil]
  case bagg => intro l c lg f es rg ih s; simp only [litPreds, atomAggPreds, atomAtoms, List.nil_append, ih]
  case agg => intro lg es rg ih s; simp only [litPreds, atomAggPreds, atomAtoms, List.nil_append, ih]
  case lit => intro s a ih; exact ih s
  case lits_nil => simp only [litsPreds, litsAtoms, List.not_mem_nil, Hit.nil]
  case lits_cons => intro s a ls ihl ih; simp only [litsPreds, litsAtoms, List.mem_append, Hit.append, ihl, ih]
  case belems_nil => simp only [bElemsPreds, bElemsAtoms, List.not_mem_nil, Hit.nil]
  case belems_cons => intro ts c es ihc ih; simp only [bElemsPreds, bElemsAtoms, List.mem_append, Hit.append, ihc, ih]
  case celems_nil => simp only [cElemsPreds, cElemsAtoms, List.not_mem_nil, Hit.nil]
  case celems_cons =>
    -- the conditions are collected twice
    intro s a c es ihl ihc ih
    simp only [cElemsPreds, cElemsAtoms, List.mem_append, Hit.append, ihl, ihc, ih, or_assoc, or_self_left]

theorem mem_litPreds (signs : List Sign) (sp : SPred) :
    ∀ l : Lit, sp ∈ litPreds signs l ↔ Hit signs (litAtoms l) sp :=
  (mem_preds_family signs sp).2.1

theorem mem_litsPreds (signs : List Sign) (sp : SPred) :
    ∀ ls : List Lit, sp ∈ litsPreds signs ls ↔ Hit signs (litsAtoms ls) sp :=
  (mem_preds_family signs sp).2.2.1

theorem mem_bElemsPreds (signs : List Sign) (sp : SPred) :
    ∀ es : List (List Term × List (Sign × Atom)), sp ∈ bElemsPreds signs es ↔ Hit signs (bElemsAtoms es) sp :=
  (mem_preds_family signs sp).2.2.2.1

theorem mem_condLitPreds (signs : List Sign) (sp : SPred) (c : CondLit) :
    sp ∈ condLitPreds signs c ↔ Hit signs (condLitAtoms c) sp := by
  simp only [condLitPreds, condLitAtoms, List.mem_append, Hit.append, mem_litPreds, mem_litsPreds]

theorem mem_bodyPreds (signs : List Sign) (sp : SPred) (b : List BLit) :
    sp ∈ bodyPreds signs b ↔ Hit signs (bodyAtoms b) sp := by
  simp only [bodyPreds, bodyAtoms, List.mem_flatMap, Hit.flatMap]
  refine exists_congr fun l => and_congr_right fun _ => ?_
  cases l <;> simp only [BLit.preds, blitAtoms, mem_litPreds, mem_condLitPreds]

theorem mem_headPreds (signs : List Sign) (sp : SPred) (h : Head) :
    sp ∈ h.preds signs ↔ Hit signs (headAtoms h) sp := by
  cases h with
  | agg lg es rg =>
    -- the conditions are collected twice
    simp only [Head.preds, headAtoms, List.mem_flatMap, Hit.flatMap, List.mem_append, mem_condLitPreds, mem_litsPreds]
    exact exists_congr fun e => and_congr_right fun _ =>
      or_iff_left_of_imp fun h => by rw [condLitAtoms, Hit.append]; exact Or.inr h
  | lit | disj | hagg | theory =>
    simp only [Head.preds, headAtoms, List.mem_flatMap, Hit.flatMap, mem_condLitPreds, mem_litPreds, List.not_mem_nil,
      Hit.nil]

theorem mem_headDerivable (sp : SPred) (l c : Nat) (h : Head) (b : List BLit) :
    sp ∈ (Stm.rule l c h b).headDerivable ↔ Hit [.pos] (headDerivedAtoms h) sp := by
  cases h <;>
    simp only [Stm.headDerivable, headDerivedAtoms, List.mem_flatMap, Hit.flatMap, mem_litPreds, List.not_mem_nil,
      Hit.nil]

theorem headDerivedAtoms_subset (h : Head) : headDerivedAtoms h ⊆ headAtoms h := by
  have key {α} (f : α → CondLit) (es : List α) :
      es.flatMap (fun e => litAtoms (f e).1) ⊆ es.flatMap (fun e => condLitAtoms (f e)) := fun x hx => by
    obtain ⟨e, he, hx⟩ := List.mem_flatMap.mp hx
    exact List.mem_flatMap.mpr ⟨e, he, List.mem_append_left _ hx⟩
  cases h with
  | lit | theory => exact List.Subset.refl _
  | disj es | agg _ es => exact key id es
  | hagg _ _ es => exact key (·.2) es

theorem symPred?_eq_some {t : Term} {p : Pred} : symPred? t = some p ↔ t.isFn = true ∧ p ∈ sigs t := by
  cases t <;> simp [symPred?, sigs, Term.isFn, eq_comm]

/-- `hpl` is needed only from right to left -/
theorem mem_map_pred (signs : List Sign) {L : List SPred} {atoms : List (Sign × Term)} {p : Pred}
    (hL : ∀ sp, sp ∈ L ↔ Hit signs atoms sp) (hpl : ∀ x ∈ atoms, x.2.isFn = true) :
    p ∈ L.map (·.pred) ↔ ∃ x ∈ atoms, x.1 ∈ signs ∧ p ∈ sigs x.2 := by
  simp only [List.mem_map, hL, Hit]
  constructor
  · rintro ⟨sp, ⟨x, hx, h1, h2, h3⟩, rfl⟩
    exact ⟨x, hx, h1 ▸ h2, (symPred?_eq_some.1 h3).2⟩
  · rintro ⟨x, hx, h1, h2⟩
    exact ⟨⟨x.1, p⟩, ⟨x, hx, rfl, h1, symPred?_eq_some.2 ⟨hpl x hx, h2⟩⟩, rfl⟩

theorem sign_mem_allSigns (s : Sign) : s ∈ allSigns := by cases s <;> decide

theorem mem_map_pred_all {L : List SPred} {atoms : List (Sign × Term)} {p : Pred}
    (hL : ∀ sp, sp ∈ L ↔ Hit allSigns atoms sp) (hpl : ∀ x ∈ atoms, x.2.isFn = true) :
    p ∈ L.map (·.pred) ↔ ∃ x ∈ atoms, p ∈ sigs x.2 :=
  (mem_map_pred allSigns hL hpl).trans (by simp only [sign_mem_allSigns, true_and])

theorem mem_allPreds {s : Stm} {p : Pred} (hpl : PlainAtoms s) : p ∈ s.allPreds ↔ Occurs s p := by
  cases s with
  | rule l c h b =>
    exact mem_map_pred_all (fun sp => by
      simp only [Stm.preds, List.mem_append, Hit.append, mem_headPreds, mem_bodyPreds]) hpl
  | minimize l c w pr ts b => exact mem_map_pred_all (fun sp => mem_bodyPreds _ sp b) hpl
  | _ => simp only [Stm.allPreds, Stm.preds, List.map_nil, List.not_mem_nil, Occurs]

theorem mem_derivablePreds {s : Stm} {p : Pred} (hpl : PlainAtoms s) : p ∈ s.derivablePreds ↔ PosHead s p := by
  cases s with
  | rule l c h b =>
    exact (mem_map_pred [.pos] (fun sp => mem_headDerivable sp l c h b) fun x hx =>
      hpl x (List.mem_append_left _ (headDerivedAtoms_subset h hx))).trans
      (by simp only [List.mem_singleton, PosHead])
  | _ => simp only [Stm.derivablePreds, Stm.headDerivable, List.map_nil, List.not_mem_nil, PosHead]

theorem mem_usedInBody {s : Stm} {p : Pred} (hpl : PlainAtoms s) : p ∈ s.usedInBody ↔ BodyOccurs s p := by
  cases s with
  | rule l c h b =>
    exact mem_map_pred_all (fun sp => by
      simp only [Stm.bodyPreds, Stm.minimizePreds, List.append_nil, mem_bodyPreds]) fun x hx =>
      hpl x (List.mem_append_right _ hx)
  | minimize l c w pr ts b =>
    exact mem_map_pred_all (fun sp => by
      simp only [Stm.bodyPreds, Stm.minimizePreds, List.nil_append, mem_bodyPreds]) hpl
  | _ => simp only [Stm.usedInBody, Stm.bodyPreds, Stm.minimizePreds, List.append_nil, List.map_nil, List.not_mem_nil,
      BodyOccurs]

theorem perm_insertOrd (p : Pred) : ∀ l : List Pred, (insertOrd p l).Perm (p :: l)
  | [] => .refl _
  | q :: qs => by
    unfold insertOrd
    split
    · exact .refl _
    · exact ((perm_insertOrd p qs).cons q).trans (.swap p q qs)

theorem sortDedup_cons (p : Pred) (ps : List Pred) : sortDedup (p :: ps) = insertSorted p (sortDedup ps) := rfl

theorem mem_sortDedup {x : Pred} : ∀ {l : List Pred}, x ∈ sortDedup l ↔ x ∈ l
  | [] => Iff.rfl
  | p :: ps => by
    rw [sortDedup_cons, insertSorted, List.mem_cons, ← mem_sortDedup (l := ps)]
    split
    · rename_i h; exact (or_iff_right_of_imp fun e => e ▸ List.contains_iff_mem.mp h).symm
    · exact (perm_insertOrd p _).mem_iff.trans List.mem_cons

theorem nodup_sortDedup : ∀ l : List Pred, (sortDedup l).Nodup
  | [] => List.nodup_nil
  | p :: ps => by
    rw [sortDedup_cons, insertSorted]
    split
    · exact nodup_sortDedup ps
    · rename_i h
      exact (perm_insertOrd p _).nodup_iff.mpr
        (List.nodup_cons.mpr ⟨fun hm => h (List.contains_iff_mem.mpr hm), nodup_sortDedup ps⟩)

theorem mem_autoDetectInput (prg : Prog) (p : Pred) :
    p ∈ autoDetectInput prg ↔ p ∈ prg.allPreds ∧ (p ∉ prg.derivablePreds ∨ sameDefUse prg p = true) := by
  simp only [autoDetectInput, autoDetectInputParts, mem_sortDedup, List.mem_append, List.mem_filter,
    Bool.not_eq_true', List.contains_eq_mem, decide_eq_false_iff_not, and_or_left]

theorem input_exact (prg : Prog) (p : Pred) (hplain : ∀ s ∈ prg, PlainAtoms s) :
    p ∈ autoDetectInput prg ↔
      (∃ s ∈ prg, Occurs s p) ∧ ((∀ s ∈ prg, ¬ PosHead s p) ∨ ∀ s ∈ prg, (BodyOccurs s p ↔ PosHead s p)) := by
  have e1 : p ∈ prg.allPreds ↔ ∃ s ∈ prg, Occurs s p :=
    List.mem_flatMap.trans (exists_congr fun s => and_congr_right fun hs => mem_allPreds (hplain s hs))
  have e2 : p ∈ prg.derivablePreds ↔ ∃ s ∈ prg, PosHead s p :=
    List.mem_flatMap.trans (exists_congr fun s => and_congr_right fun hs => mem_derivablePreds (hplain s hs))
  have e3 : sameDefUse prg p = true ↔ ∀ s ∈ prg, (BodyOccurs s p ↔ PosHead s p) := by
    simp only [sameDefUse, List.all_eq_true, beq_iff_eq, List.contains_eq_mem, decide_eq_decide]
    exact forall_congr' fun s => forall_congr' fun hs =>
      iff_congr (mem_usedInBody (hplain s hs)) (mem_derivablePreds (hplain s hs))
  rw [mem_autoDetectInput, e1, e2, e3]
  simp only [not_exists, not_and]

theorem input_excludes (prg : Prog) (p : Pred)
    (hplain : ∀ s ∈ prg, PlainAtoms s)
    (h : ∃ s ∈ prg, PosHead s p ∧ ¬ BodyOccurs s p) :
    p ∉ autoDetectInput prg := by
  obtain ⟨s, hs, hph, hnb⟩ := h
  rw [input_exact prg p hplain]
  rintro ⟨_, hn | hsame⟩
  · exact hn s hs hph
  · exact hnb ((hsame s hs).2 hph)

theorem output_exact (prg : Prog) (p : Pred)
    (hplain : ∀ s ∈ prg, ∀ t b, s = Stm.showTerm t b → ∀ x ∈ bodyAtoms b, x.2.isFn = true) :
    p ∈ autoDetectOutput prg ↔ Shown prg p := by
  simp only [autoDetectOutput, mem_sortDedup, List.mem_flatMap, Shown]
  refine exists_congr fun s => and_congr_right fun hs => ?_
  cases s with
  | showSig n a pos => simp only [List.mem_singleton]
  | showTerm t b =>
    exact mem_map_pred_all (fun sp => mem_bodyPreds _ sp b) (hplain _ hs t b rfl)
  | _ => simp only [List.not_mem_nil]

theorem output_nodup (prg : Prog) : (autoDetectOutput prg).Nodup := nodup_sortDedup _

/-- `:- d(1;2), e.   e :- not f.` : `d/1` occurs, is never a head, and is not reported (defect D9) -/
theorem input_complete_counterexample :
    ∃ (prg : Prog) (p : Pred), (∃ s ∈ prg, Occurs s p) ∧ (∀ s ∈ prg, ¬ PosHead s p) ∧ p ∉ autoDetectInput prg := by
  refine ⟨[ .rule 1 1 (.lit (.pos, .bool false))
              [.lit (.pos, .sym (.pool [.fn "d" [.sym (.num 1)] false, .fn "d" [.sym (.num 2)] false])),
               .lit (.pos, .sym (.fn "e" [] false))],
            .rule 2 1 (.lit (.pos, .sym (.fn "e" [] false))) [.lit (.neg, .sym (.fn "f" [] false))] ],
          ⟨"d", 1⟩, ⟨_, List.mem_cons_self, (.pos, _), List.mem_cons_self, by simp [sigs]⟩, ?_, by decide⟩
  intro s hs
  simp only [List.mem_cons, List.not_mem_nil, or_false] at hs
  rcases hs with rfl | rfl <;> rintro ⟨x, hx, -, hp⟩
  · cases hx
  · obtain rfl : x = (.pos, .fn "e" [] false) := List.mem_singleton.mp hx
    exact absurd hp (by simp [sigs])

end NgoVerif.Proofs.C18
