import NgoVerif.Model.MinMax
/-!
# `TranslationMap.translate_parameters`: where an argument of the old atom ends up

`_create_replacement` puts the chain variable into the argument list of the chain predicate at the position
`mapping[idx]` (`idx` = the result's position in the old atom).  The lemmas show that this is the position that holds the
old atom's result argument after `translate_parameters` (the last writer of a position wins, as in the Python loop).
-/
namespace NgoVerif.Proofs.C12pos
open NgoVerif.MinMax

/-- read through `join`: a padding `none` is no entry -/
theorem setAt_get (ret : List (Option Term)) (i j : Nat) (v : Term) :
    ((translateParameters.setAt ret i v)[j]?).join = if j = i then some v else (ret[j]?).join := by
  fun_induction translateParameters.setAt ret i v generalizing j <;> cases j <;> simp [*]

theorem go_untouched {arguments : List Term} {ms : List (Option Nat)} {args : List Term} {ret out : List (Option Term)}
    (h : translateParameters.go arguments ms args ret = .ok out) {j : Nat} (hj : ∀ k : Nat, ms[k]? ≠ some (some j)) :
    (out[j]?).join = (ret[j]?).join := by
  fun_induction translateParameters.go arguments ms args ret
  case case1 => cases h; rfl  -- the mapping is used up
  case case2 ih => exact ih h fun k => hj (k + 1)  -- a hole in the mapping: the argument is skipped
  case case4 i _ _ _ _ _ ih =>  -- mapped to position `i`: written by `setAt`
    rw [ih h fun k => hj (k + 1), setAt_get, if_neg fun e => hj 0 (by rw [e]; rfl)]
  case case3 | case5 => cases h  -- the two error exits

theorem go_position {arguments : List Term} {ms : List (Option Nat)} {args : List Term} {ret out : List (Option Term)}
    (h : translateParameters.go arguments ms args ret = .ok out) {k j : Nat} (hk : ms[k]? = some (some j))
    (hlast : ∀ k', k < k' → ms[k']? ≠ some (some j)) :
    (out[j]?).join = args[k]? := by
  fun_induction translateParameters.go arguments ms args ret generalizing k
  case case1 => cases hk  -- the mapping is used up
  case case2 ih =>  -- a hole in the mapping: the argument is skipped
    cases k with
    | zero => cases hk
    | succ k => rw [ih h hk fun k' hk' => hlast (k' + 1) (Nat.succ_lt_succ hk'), List.getElem?_drop, Nat.add_comm]
  case case4 ih =>  -- mapped to a position: written there by `setAt`
    cases k with
    | zero =>
      cases hk
      rw [go_untouched h fun k' => hlast (k' + 1) (Nat.succ_pos _), setAt_get, if_pos rfl]; rfl
    | succ k => exact ih h hk fun k' hk' => hlast (k' + 1) (Nat.succ_lt_succ hk')
  case case3 | case5 => cases h  -- the two error exits

end NgoVerif.Proofs.C12pos
