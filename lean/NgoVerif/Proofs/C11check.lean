import NgoVerif.Proofs.C11sem
import NgoVerif.Sem.Head
import NgoVerif.Sem.DecEq
/-!
# An executable check that implies the side condition of `C11sem.neq_to_lt_strongEq`

`symCheck ps X Y h b` is what the driver evaluates (`DriverSem.lean`, op `sem_sym_cond`) on every rule in which the
real `symmetry` pass replaced `X != Y` by `X < Y`.
-/
namespace NgoVerif.Proofs.C11check
open NgoVerif.Sem NgoVerif.Proofs.C11sem

def members (ps : List (String × String)) : List String := ps.flatMap fun p => [p.1, p.2]

def swaps (ps : List (String × String)) : String → String := fun v =>
  match ps.find? (fun p => p.1 == v || p.2 == v) with
  | some p => if p.1 == v then p.2 else p.1
  | none => v

theorem swaps_fix {ps : List (String × String)} {v : String} (h : v ∉ members ps) : swaps ps v = v := by
  have : ps.find? (fun p => p.1 == v || p.2 == v) = none := by
    refine List.find?_eq_none.mpr fun p hp hq => h (List.mem_flatMap.mpr ⟨p, hp, ?_⟩)
    simp only [Bool.or_eq_true, beq_iff_eq] at hq
    rcases hq with rfl | rfl <;> simp
  rw [swaps, this]

def involOk (ps : List (String × String)) : Bool :=
  (members ps).all fun v => swaps ps (swaps ps v) == v

theorem swaps_inv {ps : List (String × String)} (h : involOk ps = true) : ∀ v, swaps ps (swaps ps v) = v := by
  intro v
  by_cases hv : v ∈ members ps
  · simp only [involOk, List.all_eq_true, beq_iff_eq] at h
    exact h v hv
  · rw [swaps_fix hv, swaps_fix hv]

def flipNe : BLit → Option BLit
  | .lit (.pos, .cmp (.var U) [⟨.ne, .var V⟩]) => some (cmpBLit V .ne U)
  | _ => none

theorem flipNe_spec {r f : BLit} (h : flipNe r = some f) : ∃ U V, r = cmpBLit U .ne V ∧ f = cmpBLit V .ne U := by
  unfold flipNe at h
  split at h
  · rename_i U V
    simp only [Option.some.injEq] at h
    exact ⟨U, V, rfl, h.symm⟩
  · cases h

def symBody (σ : String → String) (b : List BLit) : Bool :=
  b.all fun l =>
    blitMem (renameBLit σ l) b ||
      (match flipNe (renameBLit σ l) with
       | some f => blitMem f b
       | none => false)

theorem symBody_sound {σ : String → String} {b : List BLit} (h : symBody σ b = true) :
    ∀ l ∈ b, renameBLit σ l ∈ b ∨ ∃ U V, renameBLit σ l = cmpBLit U .ne V ∧ cmpBLit V .ne U ∈ b := by
  intro l hl
  simp only [symBody, List.all_eq_true, Bool.or_eq_true] at h
  refine (h l hl).imp blitMem_mem fun h1 => ?_
  split at h1
  · rename_i f hf
    obtain ⟨U, V, hr, rfl⟩ := flipNe_spec hf
    exact ⟨U, V, hr, blitMem_mem h1⟩
  · cases h1

/-- = `ruleGlobals (stdParams P) h (b ++ [cmpBLit X .ne Y])` (`stdParams_ruleGlobals`) -/
def globalsList (X Y : String) (h : Head) (b : List BLit) : List String :=
  stdHeadGlobals h ++ bodyGlobals (b ++ [cmpBLit X .ne Y])

def symGlobals (σ : String → String) (X Y : String) (h : Head) (b : List BLit) : Bool :=
  (globalsList X Y h b).all fun v => (globalsList X Y h b).contains (σ v)

theorem symGlobals_sound {σ : String → String} (hinv : ∀ v, σ (σ v) = v) {X Y : String} {h : Head} {b : List BLit}
    (hc : symGlobals σ X Y h b = true) (v : String) : v ∈ globalsList X Y h b ↔ σ v ∈ globalsList X Y h b := by
  simp only [symGlobals, List.all_eq_true, List.contains_iff_mem] at hc
  exact ⟨hc v, fun hv => hinv v ▸ hc (σ v) hv⟩

def symHead (σ : String → String) (h : Head) : Bool := h.vars.all fun v => σ v == v

def symCheck (ps : List (String × String)) (X Y : String) (h : Head) (b : List BLit) : Bool :=
  involOk ps && swaps ps X == Y && symBody (swaps ps) b && symGlobals (swaps ps) X Y h b && symHead (swaps ps) h

theorem symCheck_sound {P : Params} (htotal : ∀ x y, P.rel .ne x y ↔ (P.rel .lt x y ∨ P.rel .lt y x))
    {ps : List (String × String)} {X Y : String} {h : Head} {b : List BLit} (hc : symCheck ps X Y h b = true) :
    Symmetric (stdParams P) (swaps ps) X Y h b := by
  simp only [symCheck, Bool.and_eq_true, beq_iff_eq] at hc
  obtain ⟨⟨⟨⟨h1, h2⟩, h3⟩, h4⟩, h5⟩ := hc
  have hinv := swaps_inv h1
  exact {
    inv := hinv
    sx := h2
    body := symBody_sound h3
    globals := symGlobals_sound hinv h4
    head := fun _ _ _ => headSat_of_fix (by simpa only [symHead, List.all_eq_true, beq_iff_eq] using h5)
    total := htotal }

end NgoVerif.Proofs.C11check
