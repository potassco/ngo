import NgoVerif.Sem.Program
import NgoVerif.Model.Normalize
/-!
# `normalize_operators`, the body pass of `expand_comparisons` (`normalizeOperators` in `Model/Normalize.lean`), preserves
the here-and-there denotation of a body — for every environment, every HT pair and every choice of the semantic parameters
— unless it splits a *negated* chain (`okBody` excludes that); and it preserves the global variables, so that the new
body can stand for the old one in any statement (`BodyEq`).

The namespace `NgoVerif.Proofs.StrongEq` (which `Proofs/C08sem.lean` fills as well) has the statement level, in the
form `Sem.strongEq_of_map` asks for.
-/
namespace NgoVerif.Proofs.C05sem
open NgoVerif.Sem

variable {P : Params}

def okLit : Sign × Atom → Bool
  | (.neg, .cmp _ gs) => gs.length == 1
  | (_, .cmp _ gs) => gs.length != 0   -- clingo's `Comparison` always has a guard
  | _ => true

def okLits (ls : List (Sign × Atom)) : Bool := ls.all okLit

def okBLit : BLit → Bool
  | .lit (s, .bagg _ _ _ _ es _) => okLit (s, .bool true) && es.all fun e => okLits e.2
  | .lit l => okLit l
  | .clit c => okLits c.2

def okBody (b : List BLit) : Bool := b.all okBLit

theorem okLit_cmp_ne_nil {s : Sign} {t : Term} {gs : List Guard} (h : okLit (s, .cmp t gs) = true) : gs ≠ [] := by
  rintro rfl; cases s <;> cases h

theorem expandCmp_cons (s : Sign) (t : Term) (g : Guard) (gs : List Guard) :
    expandCmp s t (g :: gs) = (s, .cmp t [g]) :: expandCmp s g.term gs := rfl

theorem normalizeOperators_cmp (s : Sign) (t : Term) (gs : List Guard) :
    normalizeOperators [.lit (s, .cmp t gs)] = (expandCmp s t gs).map .lit := List.append_nil _

theorem normalizeOperators_cons (x : BLit) (bs : List BLit) :
    normalizeOperators (x :: bs) = normalizeOperators [x] ++ normalizeOperators bs := by
  cases x with
  | clit c => rfl
  | lit l =>
    obtain ⟨s, a⟩ := l
    cases a with
    | cmp t gs => rw [normalizeOperators_cmp]; rfl
    | _ => rfl

theorem normalizeOperators_eq_flatMap (b : List BLit) :
    normalizeOperators b = b.flatMap fun x => normalizeOperators [x] := by
  induction b with
  | nil => rfl
  | cons x xs ih => rw [normalizeOperators_cons, List.flatMap_cons, ← ih]

theorem okLits_cons {l : Sign × Atom} {ls : List (Sign × Atom)} :
    okLits (l :: ls) = true ↔ okLit l = true ∧ okLits ls = true := by
  simp only [okLits, List.all_cons, Bool.and_eq_true]

theorem expand_pos {G : String → Prop} {e : Env} {H T : Interp} {s : Sign} (hs : s = .pos ∨ s = .dneg) :
    ∀ {t : Term} {gs : List Guard},
      litsSat P G e H T (expandCmp s t gs) ↔ chainHolds P e t gs
  | t, [] => by simp only [expandCmp, cmpList, List.map_nil, litsSat, chainHolds]
  | t, g :: gs => by
    rw [expandCmp_cons, litsSat_cons, expand_pos hs]
    rcases hs with rfl | rfl <;> simp only [litSat_pos_cmp, litSat_dneg_cmp, chainHolds, and_true]

theorem expand_sat {G : String → Prop} {e : Env} {H T : Interp} {s : Sign} {t : Term} {gs : List Guard}
    (hok : okLit (s, .cmp t gs) = true) :
    litsSat P G e H T (expandCmp s t gs) ↔ litSat P G e H T (s, .cmp t gs) := by
  cases s with
  | pos => exact (expand_pos (Or.inl rfl)).trans litSat_pos_cmp.symm
  | dneg => exact (expand_pos (Or.inr rfl)).trans litSat_dneg_cmp.symm
  | neg =>
    match gs, hok with
    | [g], _ => rw [expandCmp_cons]; exact and_iff_left trivial

theorem normCondition_sat {G : String → Prop} {e : Env} {H T : Interp} {c : List (Sign × Atom)}
    (hok : okLits c = true) :
    litsSat P G e H T (normCondition c) ↔ litsSat P G e H T c := by
  fun_induction normCondition c with
  | case1 => exact Iff.rfl
  | case2 s t gs cs ih =>  -- a comparison: expanded
    rw [okLits_cons] at hok
    rw [litsSat_append, litsSat_cons, expand_sat hok.1, ih hok.2]
  | case3 c cs _ ih =>  -- any other literal: kept
    rw [okLits_cons] at hok
    rw [litsSat_cons, litsSat_cons, ih hok.2]

theorem bTuples_norm {G : String → Prop} {e : Env} {H T : Interp} {es : List BAggElem}
    (hok : (es.all fun x => okLits x.2) = true) (tup : List Sym) :
    bTuples P G e H T (es.map fun (ts, cond) => (ts, normCondition cond)) tup ↔ bTuples P G e H T es tup := by
  rw [List.map_eq_flatMap]
  refine bTuples_flatMap _ (fun x hx tup => ?_) tup
  simp only [bTuples, normCondition_sat (List.all_eq_true.mp hok x hx)]

theorem mem_globals_expandCmp {v : String} {s : Sign} :
    ∀ {t : Term} {gs : List Guard}, gs ≠ [] →
      (v ∈ bodyGlobals ((expandCmp s t gs).map .lit) ↔ v ∈ blitGlobals (.lit (s, .cmp t gs)))
  | _, [], h => absurd rfl h
  | t, [g], _ => by rw [← bodyGlobals_singleton (.lit (s, .cmp t [g]))]; exact Iff.rfl
  | t, g :: g' :: gs, _ => by
    rw [expandCmp_cons, List.map_cons, bodyGlobals_cons, List.mem_append,
      mem_globals_expandCmp (List.cons_ne_nil g' gs), ← mem_blitGlobals_cmp_cons]

theorem normalizeOperators_one {x : BLit} (hok : okBLit x = true) : BodyEq P (normalizeOperators [x]) [x] := by
  cases x with
  | clit c =>
    exact .one (fun _ => Iff.rfl) fun G e H T =>
      condLitSat_congr_cond c.1 fun _ _ _ => normCondition_sat hok
  | lit l =>
    obtain ⟨s, a⟩ := l
    cases a with
    | cmp t gs =>
      rw [normalizeOperators_cmp]
      exact .single (fun _ => mem_globals_expandCmp (okLit_cmp_ne_nil hok))
        fun _ _ _ _ => bodySat_map_lit.trans (expand_sat hok)
    | bagg l c lg f es rg =>
      have hes : (es.all fun x => okLits x.2) = true := (Bool.and_eq_true_iff.mp hok).2
      exact .one (fun _ => Iff.rfl) fun G e H T =>
        litSat_bagg_congr s l c lg rg f fun _ => bTuples_norm hes
    | _ => exact .refl _

theorem normalizeOperators_bodyEq {b : List BLit} (hok : okBody b = true) : BodyEq P (normalizeOperators b) b := by
  rw [normalizeOperators_eq_flatMap]
  exact .flatMap _ fun x hx => normalizeOperators_one (List.all_eq_true.mp hok x hx)

end NgoVerif.Proofs.C05sem

namespace NgoVerif.Proofs.StrongEq
open NgoVerif.Sem NgoVerif.Proofs.C05sem

variable {P : PParams}

def okStm : Stm → Bool
  | .rule _ _ _ b => okBody b
  | .minimize _ _ _ _ _ b => okBody b
  | _ => true

theorem stmSat_expandComparisons {s : Stm} (hok : okStm s = true) (H T : Interp) :
    stmSat P H T (expandComparisons s) ↔ stmSat P H T s := by
  cases s with
  | rule l c h b => exact (normalizeOperators_bodyEq hok).stmSat_congr h H T
  | _ => exact Iff.rfl

theorem costTuples_expandComparisons {s : Stm} (hok : okStm s = true) (T : Interp) (x : Sym × Sym × List Sym) :
    costTuples P T (expandComparisons s) x ↔ costTuples P T s x := by
  cases s with
  | minimize l c w p ts b => exact (normalizeOperators_bodyEq hok).costTuples_congr w p ts T x
  | _ => exact Iff.rfl

end NgoVerif.Proofs.StrongEq
