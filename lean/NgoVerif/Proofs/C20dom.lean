import NgoVerif.Sem.Head
import NgoVerif.Sem.DecEq
/-!
# Generated domain predicates over-approximate the predicates they stand for — typed programs, from syntax

`dn` maps a predicate to the name of its domain predicate (`p ↦ __dom_p`).  If every rule that can derive an atom of
a mapped predicate - a plain rule `p(t̄) :- B.` or a choice rule with the element `p(t̄) : c̄` - has its *domain rule*
`dom_p(t̄) :- B'.` in the program, where every literal of `B'` is either a literal of `B` (or `c̄`) unchanged or the
domain version `dom_r(s̄)` of a positive literal `r(s̄)` of it, then in EVERY answer set

      p(c̄) ∈ T   ⟹   dom_p(c̄) ∈ T                                   (`dom_overapprox`).

The proof is a minimality argument: the interpretation `H` that keeps of `T` exactly the atoms covered by their domain
atom is a here-and-there model of the program below `T`, so it is `T`.  Nothing is assumed about recursion,
negation or aggregates in `B` beyond persistence; the hypothesis that negated literals and conditions are copied
*unchanged* (not replaced by their domain versions) is exactly what finding D6 violates.
-/
namespace NgoVerif.Proofs.C20dom
open NgoVerif.Sem

variable {P : Params}

abbrev DomMap := String → Nat → Option String

def qsig (dn : DomMap) : Sig := fun n k => (dn n k).isSome

def covered (dn : DomMap) (T : Interp) : Interp :=
  fun a => T a ∧ ∀ d, dn a.name a.args.length = some d → T ⟨d, a.args⟩

theorem covered_sub (dn : DomMap) (T : Interp) : Sub (covered dn T) T := fun _ h => h.1

theorem covered_agree (dn : DomMap) (T : Interp) : AgreeOffName (qsig dn) (covered dn T) T := by
  intro a hn
  have hnone : dn a.name a.args.length = none := Option.not_isSome_iff_eq_none.mp hn
  simp only [covered, hnone, reduceCtorEq, false_imp_iff, implies_true, and_true]

theorem covered_eval {e : Env} {args : List Term} {vals : List Sym} (hv : evalTerms P e args = some vals) {dn : DomMap}
    {T : Interp} {q : String} :
    covered dn T ⟨q, vals⟩ ↔ T ⟨q, vals⟩ ∧ ∀ d, dn q args.length = some d → T ⟨d, vals⟩ := by
  simp only [covered, evalTerms_length hv]

def posAtom (name : String) (args : List Term) : BLit := .lit (.pos, .sym (.fn name args false))

def DomLit (dn : DomMap) (G G' : String → Prop) (B : List BLit) (l' : BLit) : Prop :=
  (l' ∈ B ∧ ∀ v ∈ blitScoped l', G v ↔ G' v) ∨
  (∃ r args d, l' = posAtom d args ∧ posAtom r args ∈ B ∧ dn r args.length = some d)

theorem domLit_sat (hp : AggPersistent P) {dn : DomMap} {G G' : String → Prop} {B : List BLit} {l' : BLit}
    (hl : DomLit dn G G' B l') {e : Env} {T : Interp} (hB : bodySat P G e (covered dn T) T B) :
    blitSat P G' e T T l' := by
  rcases hl with ⟨hmem, hsc⟩ | ⟨r, args, d, rfl, hmem, hd⟩
  · exact (blitSat_gcongr hsc).mp (bodySat_pers hp (covered_sub dn T) hB l' hmem)
  · obtain ⟨vals, hv, hcov⟩ := blitSat_pos_fn.mp (hB _ hmem)
    exact blitSat_pos_fn.mpr ⟨vals, hv, ((covered_eval hv).mp hcov).2 d hd⟩

variable (P) in
/-- `src`: the body of the rule (global variables `G`) that derives the atom `d(args)` stands for, together with the
element's condition if that rule is a choice -/
def HasDomRule (dn : DomMap) (prg : Prog) (G : String → Prop) (src : List BLit) (d : String) (args : List Term) : Prop :=
  ∃ l' c' B', Stm.rule l' c' (.lit (.pos, .sym (.fn d args false))) B' ∈ prg ∧
    ∀ x ∈ B', DomLit dn G (fun v => v ∈ ruleGlobals (stdParams P) (.lit (.pos, .sym (.fn d args false))) B') src x

theorem HasDomRule.fires {dn : DomMap} {prg : Prog} {G : String → Prop} {src : List BLit} {d : String} {args : List Term}
    (h : HasDomRule P dn prg G src d args) (hp : AggPersistent P) {T : Interp} (hT : Models (stdParams P) prg T T)
    {e : Env} (hsrc : bodySat P G e (covered dn T) T src) {vals : List Sym} (hv : evalTerms P e args = some vals) :
    T ⟨d, vals⟩ := by
  obtain ⟨l', c', B', hmem, hdom⟩ := h
  have hhead := (stmSat_rule.mp (hT _ hmem) e).2 fun x hx => domLit_sat hp (hdom x hx) hsrc
  rw [stdParams_headSat, stdHeadSat_lit, headLitSat_pos_fn] at hhead
  exact hhead vals hv

variable (P) in
structure RuleCovered (dn : DomMap) (prg : Prog) (l c : Nat) (h : Head) (B : List BLit) : Prop where
  /-- = `HasDomRule P dn prg _ B d args`, spelled out -/
  plain : ∀ q args d, h = .lit (.pos, .sym (.fn q args false)) → dn q args.length = some d →
    ∃ l' c' B', Stm.rule l' c' (.lit (.pos, .sym (.fn d args false))) B' ∈ prg ∧
      ∀ x ∈ B', DomLit dn (fun v => v ∈ ruleGlobals (stdParams P) h B)
        (fun v => v ∈ ruleGlobals (stdParams P) (.lit (.pos, .sym (.fn d args false))) B') B x
  /-- the domain rule is `HasDomRule P dn prg _ (B ++ c.2.map .lit) d args`, spelled out; the last conjunct
  (element-local variables do not recur in the rule body) is not needed by the proof of `dom_overapprox` -/
  choice : ∀ lg elems rg, h = .agg lg elems rg → ∀ c ∈ elems,
    atomAvoids (qsig dn) c.1.2 = true ∨
    (∃ q args d l' c' B', c.1 = (.pos, .sym (.fn q args false)) ∧ dn q args.length = some d ∧
      Stm.rule l' c' (.lit (.pos, .sym (.fn d args false))) B' ∈ prg ∧
      (∀ x ∈ B', DomLit dn (fun v => v ∈ ruleGlobals (stdParams P) h B)
        (fun v => v ∈ ruleGlobals (stdParams P) (.lit (.pos, .sym (.fn d args false))) B') (B ++ c.2.map BLit.lit) x) ∧
      (∀ v ∈ (condLitTerms c).flatMap Term.vars, v ∉ ruleGlobals (stdParams P) h B → v ∉ B.flatMap BLit.vars))
  /-- every other head does not mention mapped predicates, or is a plain literal of the parser's shapes -/
  other : (∃ q args, h = .lit (.pos, .sym (.fn q args false))) ∨ (∃ lg elems rg, h = .agg lg elems rg) ∨
    (∃ s a, h = .lit (s, a) ∧ s ≠ .pos ∧ (∃ t, a = .sym t)) ∨
    (∃ s t gs, h = .lit (s, .cmp t gs)) ∨ (∃ s b, h = .lit (s, .bool b)) ∨
    (headAvoids (qsig dn) h = true ∧ ∀ l, h ≠ .lit l)

variable (P) in
def Covered (dn : DomMap) (prg : Prog) : Prop :=
  ∀ l c h B, Stm.rule l c h B ∈ prg → RuleCovered P dn prg l c h B

variable (P) in
/-- double negation is evaluated in the total interpretation only (`agg` is not needed by the proof of `dom_overapprox`,
which uses `old`, for the bounds of a choice) -/
structure DnegT : Prop where
  old : ∀ lg rg X Y, P.oldAggRel .dneg lg rg X Y ↔ P.oldAggRel .dneg lg rg Y Y
  agg : ∀ lg f rg X Y, P.aggRel .dneg lg f rg X Y ↔ P.aggRel .dneg lg f rg Y Y

theorem covered_atom (hp : AggPersistent P) {dn : DomMap} {prg : Prog} {T : Interp} (hT : Models (stdParams P) prg T T)
    {G : String → Prop} {src : List BLit} {q : String} {args : List Term}
    (hdom : ∀ d, dn q args.length = some d → HasDomRule P dn prg G src d args)
    {e : Env} (hsrc : bodySat P G e (covered dn T) T src) {vals : List Sym} (hv : evalTerms P e args = some vals)
    (hq : T ⟨q, vals⟩) : covered dn T ⟨q, vals⟩ :=
  (covered_eval hv).mpr ⟨hq, fun d hd => (hdom d hd).fires hp hT hsrc hv⟩

theorem covered_models (hp : AggPersistent P) (hdn : DnegT P) {dn : DomMap} {prg : Prog} (hc : Covered P dn prg) {T : Interp}
    (hT : Models (stdParams P) prg T T) : Models (stdParams P) prg (covered dn T) T := by
  intro s hs
  cases s with
  | rule l c h B =>
    have hrc := hc l c h B hs
    have hTs := stmSat_rule.mp (hT _ hs)
    refine stmSat_rule.mpr fun e => ⟨fun hB => ?_, (hTs e).2⟩
    have hhT : stdHeadSat P _ e T T h := (hTs e).2 (bodySat_pers hp (covered_sub dn T) hB)
    show stdHeadSat P _ e (covered dn T) T h
    rcases hrc.other with ⟨q, args, rfl⟩ | ⟨lg, elems, rg, rfl⟩ | ⟨s, a, rfl, hs', t, rfl⟩ | ⟨s, t, gs, rfl⟩ | ⟨s, b, rfl⟩ | ⟨hav, _⟩
    · -- plain positive head
      rw [stdHeadSat_lit, headLitSat_pos_fn] at hhT ⊢
      exact fun vals hv => covered_atom hp hT (hrc.plain q args · rfl) hB hv (hhT vals hv)
    · -- choice head: element by element; the bounds are read in `T` alone
      refine ⟨choiceOk_iff.mpr fun cl hcl e' hag hcond hT1 => ?_, (hdn.old _ _ _ _).mpr hhT.2⟩
      rcases hrc.choice lg elems rg rfl cl hcl with hav | ⟨q, args, d, l', c', B', hlit, hd, hmem, hdom, -⟩
      · -- an element without a mapped predicate
        exact (litSat_indep hav (covered_agree dn T) fun _ _ => Iff.rfl).mpr hT1
      · -- an element `q(args) : c̄` of a mapped predicate, its domain rule made from the rule body and `c̄`.
        -- The rule body holds at the element's environment `e'` as well: the two differ on local variables only
        have hB' := (bodySat_agree hag fun v hv => List.mem_append_right _ hv).mp hB
        have hdom' : ∀ d', dn q args.length = some d' → HasDomRule P dn prg
            (fun v => v ∈ ruleGlobals (stdParams P) (.agg lg elems rg) B) (B ++ cl.2.map BLit.lit) d' args := by
          intro d' hd'
          obtain rfl : d = d' := Option.some.inj (hd.symm.trans hd')
          exact ⟨l', c', B', hmem, hdom⟩
        rw [hlit, litSat_pos_fn] at hT1 ⊢
        obtain ⟨vals, hv, hq⟩ := hT1
        exact ⟨vals, hv, covered_atom hp hT hdom' (bodySat_append.mpr ⟨hB', bodySat_map_lit.mpr hcond⟩) hv hq⟩
    · -- negated / doubly negated symbolic head literal: evaluated in `T`
      cases s with
      | pos => exact absurd rfl hs'
      | neg => exact hhT
      | dneg => exact hhT
    · -- comparison: no interpretation is consulted
      cases s <;> exact hhT
    · -- `#true` / `#false`
      cases s <;> exact hhT
    · -- any other head has no mapped predicate
      exact (stdHeadSat_indep hav (covered_agree dn T) fun _ _ => Iff.rfl).mpr hhT
  | _ => trivial

theorem dom_overapprox (hp : AggPersistent P) (hdn : DnegT P) {dn : DomMap} {prg : Prog} (hc : Covered P dn prg) {T : Interp}
    (hT : Stable (stdParams P) prg T) :
    ∀ a d, T a → dn a.name a.args.length = some d → T ⟨d, a.args⟩ :=
  fun a d ha => (hT.least (covered_sub dn T) (covered_models hp hdn hc hT.1) a ha).2 d

/-- the map given as an association list `((p, n), dom name)` -/
def mapOf (m : List ((String × Nat) × String)) : DomMap := fun n k => (m.find? fun x => x.1.1 == n && x.1.2 == k).map (·.2)

def iffB (a b : Bool) : Bool := a == b

def domLitCheck (m : List ((String × Nat) × String)) (Gl Gl' : List String) (B : List BLit) (l' : BLit) : Bool :=
  (blitMem l' B && (blitScoped l').all fun v => iffB (Gl.contains v) (Gl'.contains v)) ||
  (match l' with
   | .lit (.pos, .sym (.fn d args false)) =>
     m.any fun x => x.2 == d && x.1.2 == args.length && mapOf m x.1.1 args.length == some d && blitMem (posAtom x.1.1 args) B
   | _ => false)

theorem domLitCheck_sound {m : List ((String × Nat) × String)} {Gl Gl' : List String} {B : List BLit} {l' : BLit}
    (h : domLitCheck m Gl Gl' B l' = true) : DomLit (mapOf m) (fun v => v ∈ Gl) (fun v => v ∈ Gl') B l' := by
  simp only [domLitCheck, Bool.or_eq_true, Bool.and_eq_true, List.all_eq_true] at h
  rcases h with ⟨h1, h2⟩ | h
  · exact Or.inl ⟨blitMem_mem h1, fun v hv => mem_iff_of_contains_beq (h2 v hv)⟩
  · split at h
    · rename_i d args
      simp only [List.any_eq_true, Bool.and_eq_true, beq_iff_eq] at h
      obtain ⟨x, -, ⟨-, h3⟩, h4⟩ := h
      exact Or.inr ⟨x.1.1, args, d, rfl, blitMem_mem h4, h3⟩
    · cases h

def headOtherCheck (m : List ((String × Nat) × String)) : Head → Bool
  | .lit (.pos, .sym (.fn _ _ false)) => true
  | .agg _ _ _ => true
  | .lit (.neg, .sym _) => true
  | .lit (.dneg, .sym _) => true
  | .lit (_, .cmp _ _) => true
  | .lit (_, .bool _) => true
  | .lit _ => false
  | h => headAvoids (qsig (mapOf m)) h

theorem headOtherCheck_sound {m : List ((String × Nat) × String)} {h : Head} (hc : headOtherCheck m h = true) :
    (∃ q args, h = .lit (.pos, .sym (.fn q args false))) ∨ (∃ lg elems rg, h = .agg lg elems rg) ∨
    (∃ s a, h = .lit (s, a) ∧ s ≠ .pos ∧ (∃ t, a = .sym t)) ∨
    (∃ s t gs, h = .lit (s, .cmp t gs)) ∨ (∃ s b, h = .lit (s, .bool b)) ∨
    (headAvoids (qsig (mapOf m)) h = true ∧ ∀ l, h ≠ .lit l) := by
  unfold headOtherCheck at hc
  split at hc
  · rename_i q args; exact Or.inl ⟨q, args, rfl⟩
  · rename_i lg es rg; exact Or.inr (Or.inl ⟨lg, es, rg, rfl⟩)
  · rename_i t; exact Or.inr (Or.inr (Or.inl ⟨.neg, _, rfl, by simp, t, rfl⟩))
  · rename_i t; exact Or.inr (Or.inr (Or.inl ⟨.dneg, _, rfl, by simp, t, rfl⟩))
  · rename_i s t gs; exact Or.inr (Or.inr (Or.inr (Or.inl ⟨s, t, gs, rfl⟩)))
  · rename_i s b; exact Or.inr (Or.inr (Or.inr (Or.inr (Or.inl ⟨s, b, rfl⟩))))
  · cases hc
  · rename_i hne; exact Or.inr (Or.inr (Or.inr (Or.inr (Or.inr ⟨hc, hne⟩))))

def globalsOf (h : Head) (B : List BLit) : List String := stdHeadGlobals h ++ bodyGlobals B

def hasDomRule (m : List ((String × Nat) × String)) (prg : Prog) (Gl : List String) (src : List BLit) (d : String)
    (args : List Term) : Bool :=
  prg.any fun s =>
    match s with
    | .rule _ _ (.lit (.pos, .sym (.fn d' args' false))) B' =>
      d' == d && termsEqb args' args &&
        B'.all fun x => domLitCheck m Gl (globalsOf (.lit (.pos, .sym (.fn d args false))) B') src x
    | _ => false

theorem hasDomRule_sound {m : List ((String × Nat) × String)} {prg : Prog} {Gl : List String} {src : List BLit} {d : String}
    {args : List Term} (h : hasDomRule m prg Gl src d args = true) :
    HasDomRule P (mapOf m) prg (fun v => v ∈ Gl) src d args := by
  simp only [hasDomRule, List.any_eq_true] at h
  obtain ⟨s, hs, hm⟩ := h
  split at hm
  · rename_i l' c' d' args' B'
    simp only [Bool.and_eq_true, beq_iff_eq, List.all_eq_true] at hm
    obtain ⟨⟨rfl, hargs⟩, hall⟩ := hm
    cases termsEqb_eq _ _ hargs
    exact ⟨l', c', B', hs, fun x hx => domLitCheck_sound (hall x hx)⟩
  · cases hm

def ruleCoveredCheck (m : List ((String × Nat) × String)) (prg : Prog) (h : Head) (B : List BLit) : Bool :=
  headOtherCheck m h &&
  (match h with
   | .lit (.pos, .sym (.fn q args false)) =>
     (match mapOf m q args.length with
      | some d => hasDomRule m prg (globalsOf h B) B d args
      | none => true)
   | .agg _ elems _ =>
     elems.all fun c =>
       atomAvoids (qsig (mapOf m)) c.1.2 ||
       (match c.1 with
        | (.pos, .sym (.fn q args false)) =>
          (match mapOf m q args.length with
           | some d => hasDomRule m prg (globalsOf h B) (B ++ c.2.map BLit.lit) d args &&
               ((condLitTerms c).flatMap Term.vars).all fun v =>
                 (globalsOf h B).contains v || !(B.flatMap BLit.vars).contains v
           | none => false)
        | _ => false)
   | _ => true)

def coveredCheck (m : List ((String × Nat) × String)) (prg : Prog) : Bool :=
  prg.all fun s =>
    match s with
    | .rule _ _ h B => ruleCoveredCheck m prg h B
    | _ => true

variable (P) in
theorem globalsOf_eq (h : Head) (B : List BLit) : ruleGlobals (stdParams P) h B = globalsOf h B :=
  stdParams_ruleGlobals h B

theorem ruleCoveredCheck_sound {m : List ((String × Nat) × String)} {prg : Prog} {l c : Nat} {h : Head} {B : List BLit}
    (hc : ruleCoveredCheck m prg h B = true) : RuleCovered P (mapOf m) prg l c h B := by
  simp only [ruleCoveredCheck, Bool.and_eq_true] at hc
  obtain ⟨ho, hm⟩ := hc
  refine ⟨?_, ?_, headOtherCheck_sound ho⟩
  · rintro q args d rfl hd
    simp only [hd] at hm
    exact hasDomRule_sound hm
  · rintro lg elems rg rfl cl hcl
    simp only [List.all_eq_true, Bool.or_eq_true] at hm
    refine (hm cl hcl).imp_right fun hq => ?_
    split at hq
    · rename_i q args heq
      split at hq
      · rename_i d hd
        simp only [Bool.and_eq_true, List.all_eq_true, Bool.or_eq_true, Bool.not_eq_true', ← Bool.not_eq_true,
          List.contains_iff_mem] at hq
        obtain ⟨l', c', B', hmem, hdom⟩ := hasDomRule_sound (P := P) hq.1
        exact ⟨q, args, d, l', c', B', heq, hd, hmem, hdom, fun v hv hng => (hq.2 v hv).resolve_left hng⟩
      · cases hq
    · cases hq

theorem coveredCheck_sound {m : List ((String × Nat) × String)} {prg : Prog} (h : coveredCheck m prg = true) :
    Covered P (mapOf m) prg := by
  intro l c hd B hs
  simp only [coveredCheck, List.all_eq_true] at h
  exact ruleCoveredCheck_sound (h _ hs)

end NgoVerif.Proofs.C20dom
