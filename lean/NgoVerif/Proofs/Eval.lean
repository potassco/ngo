import NgoVerif.Proofs.EvalAttr
import NgoVerif.Sem.Head
import NgoVerif.Sem.Rename
/-!
# Evaluating an executable check on a concrete program

The non-vacuity examples of `Props/` each state that a check (`impliedCheck`, `splitCheck`, …) accepts a small program:
a finite fact, to be evaluated.  The kernel evaluates everything in these checks except `Term.vars` (and, too slowly to be
of use, the renaming functions): they recurse through the `List Term` inside `Term.fn`, so they are compiled by
well-founded recursion, whose proof of well-foundedness the kernel does not unfold.  The proofs therefore take two steps.
`simp only [ngo_eval, …]` rewrites with the defining equations until every variable set is a literal list (the `List`
equations unroll the `all` / `any` / `flatMap` whose function bodies compute variables of their argument);
`decide +kernel` evaluates what remains.

`ngo_eval` holds the variable computations (below).  In place of `…` go the definitions between the check and them
(`impliedCheck`, `qVarsOk`) and one's own abbreviations for pieces of syntax (`atomL`, `headL`, the record the check is
applied to): `simp only` does not open a definition it was not given.  With one missing, a `Term.vars` is left under a
`match` on the unopened name and `decide +kernel` fails, printing the proposition: some hundred lines of nested `match`es,
in which that name in the discriminants is all that tells the cause.  The proof modules of the checks do not tag their own
definitions: `DriverSem.lean` imports them, and the attribute's module would link the simplifier into the compiled driver.

An equation between programs, as `keep "u" 2 prg = [r₁, r₃]` (to see which program a hypothesis `Stable … (keep n k prg) T`
is about), is closed by `rfl`, not by `decide`: `Stm` and the syntax below it derive `BEq` only, so no `Decidable` instance
is found.
-/
namespace NgoVerif
open Sem

attribute [ngo_eval]
  Term.vars Atom.terms litTerms litsTerms litVars BLit.vars BLit.terms Head.vars Head.terms optGuardTerms condLitTerms
  bElemsTerms cElemsTerms
  stdHeadGlobals bodyGlobals blitGlobals bodyScoped blitScoped atomScoped
  renameBody renameBLit renameLit renameAtom renameTerm renameTerms
  List.map_cons List.map_nil List.cons_append List.nil_append List.append_nil List.flatMap_cons List.flatMap_nil
  List.all_cons List.all_nil List.any_cons List.any_nil

end NgoVerif
