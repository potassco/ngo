import NgoVerif.Proofs.C08anon
/-!
# `cleanup`: deleting a weaker copy of a literal inside a condition

The condition of a conditional literal in a body (`l : …, p(s̄), p(t̄), …`) or of an element of a body aggregate
(`t̄' : …, p(s̄), p(t̄), …`) loses `p(t̄)`, weaker than `p(s̄)` as in `Proofs/C08anon.lean`.  The local environment of the
condition can give the fresh variables the values `p(s̄)` has, so the conditional literal holds, and the element contributes
the same tuples, before and after.  Hence the rule has the same here-and-there models, in any program, for every head
semantics of `Sem/Head.lean`.
-/
namespace NgoVerif.Proofs.C08anonCond
open NgoVerif.Sem NgoVerif.Proofs.C08anon

variable {P : Params}

structure CondAnon where
  cond : List Lit           -- the condition after the deletion
  pn : String
  sargs : List Term
  targs : List Term
  F : List String

namespace CondAnon
def pLit (A : CondAnon) : Lit := (.pos, .sym (.fn A.pn A.sargs false))
def qLit (A : CondAnon) : Lit := (.pos, .sym (.fn A.pn A.targs false))
end CondAnon

section scope
variable {F : List String} {ss ts : List Term} {cond : List Lit} {G : String → Prop} {Ψ : Env → Prop}

theorem weaker_cond_forall (hw : Weaker F ss ts) {pn : String} (hp : ((.pos, .sym (.fn pn ss false)) : Lit) ∈ cond)
    (hc : ∀ v ∈ (litsTerms cond).flatMap Term.vars, v ∉ F) (hG : ∀ v, G v → v ∉ F)
    (hΨ : ∀ e e', Agree (· ∉ F) e e' → (Ψ e' ↔ Ψ e)) {e : Env} {X T : Interp} :
    (∀ e', Agree G e e' → litsSat P G e' X T ((.pos, .sym (.fn pn ts false)) :: cond) → Ψ e') ↔
      ∀ e', Agree G e e' → litsSat P G e' X T cond → Ψ e' := by
  simpa only [litsSat_cons] using weaker_forall hw G G (S := Agree G e)
    (hS := fun _ _ hag ha v hv => (hag v (hG v hv)).trans (ha v hv))
    (hC := fun e₁ e₂ hag => (litsSat_congr fun v hv => hag v (hc v hv)).mpr) (hΨ := hΨ)
    (hp := fun _ h => litsSat_iff.mp h _ hp)

theorem weaker_cond_exists (hw : Weaker F ss ts) {pn : String} (hp : ((.pos, .sym (.fn pn ss false)) : Lit) ∈ cond)
    (hc : ∀ v ∈ (litsTerms cond).flatMap Term.vars, v ∉ F) (hG : ∀ v, G v → v ∉ F)
    (hΨ : ∀ e e', Agree (· ∉ F) e e' → (Ψ e' ↔ Ψ e)) {e : Env} {X T : Interp} :
    (∃ e', Agree G e e' ∧ Ψ e' ∧ litsSat P G e' X T ((.pos, .sym (.fn pn ts false)) :: cond)) ↔
      ∃ e', Agree G e e' ∧ Ψ e' ∧ litsSat P G e' X T cond := by
  simpa only [litsSat_cons] using weaker_exists hw G G (S := Agree G e)
    (hS := fun _ _ hag ha v hv => (hag v (hG v hv)).trans (ha v hv))
    (hC := fun e₁ e₂ hag => (litsSat_congr fun v hv => hag v (hc v hv)).mpr) (hΨ := hΨ)
    (hp := fun _ h => litsSat_iff.mp h _ hp)

theorem weaker_condLit (hw : Weaker F ss ts) {pn : String} (hp : ((.pos, .sym (.fn pn ss false)) : Lit) ∈ cond)
    (hc : ∀ v ∈ (litsTerms cond).flatMap Term.vars, v ∉ F) (hG : ∀ v, G v → v ∉ F)
    {hd : Lit} (hhd : ∀ v ∈ litVars hd, v ∉ F) {e : Env} {H T : Interp} :
    condLitSat P G e H T (hd, (.pos, .sym (.fn pn ts false)) :: cond) ↔ condLitSat P G e H T (hd, cond) := by
  have hΨ (X : Interp) : ∀ e₁ e₂, Agree (· ∉ F) e₁ e₂ → (litSat P G e₂ X T hd ↔ litSat P G e₁ X T hd) :=
    fun e₁ e₂ hag => litSat_congr fun v hv => hag v (hhd v hv)
  simp only [condLitSat_iff, imp_and, forall_and]
  exact and_congr (weaker_cond_forall hw hp hc hG (hΨ H)) (weaker_cond_forall hw hp hc hG (hΨ T))

theorem weaker_bagg (hw : Weaker F ss ts) {pn : String} (hp : ((.pos, .sym (.fn pn ss false)) : Lit) ∈ cond)
    (hc : ∀ v ∈ (litsTerms cond).flatMap Term.vars, v ∉ F) (hG : ∀ v, G v → v ∉ F)
    {tt : List Term} (htt : ∀ v ∈ tt.flatMap Term.vars, v ∉ F) {e : Env} {s : Sign} (l c : Nat)
    {lg rg : Option Guard} {f : AggFun} {epre epost : List BAggElem} {H T : Interp} :
    litSat P G e H T (s, .bagg l c lg f (epre ++ (tt, (.pos, .sym (.fn pn ts false)) :: cond) :: epost) rg) ↔
      litSat P G e H T (s, .bagg l c lg f (epre ++ (tt, cond) :: epost) rg) :=
  litSat_bagg_congr s l c lg rg f fun W tup => by
    rw [bTuples_append, bTuples_append, bTuples_cons, bTuples_cons]
    exact or_congr_right (or_congr_left (weaker_cond_exists hw hp hc hG
      fun e₁ e₂ hag => by rw [evalTerms_congr fun v hv => hag v (htt v hv)]))

end scope

/-- `outside` are the variables of the whole rule outside of the shortened condition (head, other body literals, the other
parts of the literal that carries the condition): the fresh variables occur in none of them, hence are not global -/
def condCheck (A : CondAnon) (outside : List String) : Bool :=
  A.cond.any (fun l => litEqb l A.pLit) && A.targs.length == A.sargs.length &&
  A.F.all (fun v => !((litsTerms A.cond).flatMap Term.vars).contains v && !outside.contains v) &&
  (A.targs.zip A.sargs).all (fun p => termEqb p.1 p.2 || isFresh A.F p.1) && decide (freshNames A.F A.targs).Nodup

theorem condCheck_sound {A : CondAnon} {outside : List String} (h : condCheck A outside = true) :
    A.pLit ∈ A.cond ∧ Weaker A.F A.sargs A.targs ∧ (∀ v ∈ (litsTerms A.cond).flatMap Term.vars, v ∉ A.F) ∧
      ∀ v ∈ outside, v ∉ A.F := by
  have hmem (hm : (A.cond.any fun l => litEqb l A.pLit) = true) : A.pLit ∈ A.cond := by
    obtain ⟨l, hl, heq⟩ := List.any_eq_true.mp hm
    exact litEqb_eq _ _ heq ▸ hl
  obtain ⟨hm, hrest⟩ := check_sound h fun hm v hv => litVars_sub_litsTerms (hmem hm) v ((litVars_fn ..).symm ▸ hv)
  exact ⟨hmem hm, hrest⟩

end NgoVerif.Proofs.C08anonCond
