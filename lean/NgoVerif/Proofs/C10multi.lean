import NgoVerif.Proofs.C10stm
/-!
# `duplication`: ALL places of use at once

`Proofs/C10stm.lean` handles one place of use; the places already rewritten mention the auxiliary predicate, so they
cannot be part of the context of the next fold.  Here the rules of all places of use are rewritten simultaneously:

    ctx ++ [ headᵢ :- bodyᵢ. ]ᵢ            vs            ctx ++ [ aux(V̄) :- S. ] ++ [ headᵢ :- restᵢ, aux(σᵢ V̄). ]ᵢ

The ground-level split theorem is reused with environments `(i, e)` - a place of use and a variable assignment -; the
glue condition then also relates different places.  That aggregates are persistent is used by `factor_all_complete`
only; `factor_all_sound` and `fold_all_existing` take the hypothesis because the well-formedness `WF` of the ground
split data bundles it.
-/
namespace NgoVerif.Proofs.C10multi
open NgoVerif.Sem NgoVerif.Proofs.C16sem NgoVerif.Proofs.C16stm NgoVerif.Proofs.C10stm
open HT (SEq)

variable (P : Params)

/-- what all places of use share: the auxiliary rule over canonical variable names -/
structure Canon where
  auxName : String
  V : List String
  Sb : List BLit
  la : Nat
  ca : Nat

structure Place where
  line : Nat
  col : Nat
  head : Head
  body : List BLit
  rest : List BLit
  σ : String → String

namespace Canon
def stm (c : Canon) : Stm := .rule c.la c.ca (varAtomHead c.auxName c.V) c.Sb
/-- = `ruleGlobals (stdParams P) (varAtomHead c.auxName c.V) c.Sb` (`stdParams_ruleGlobals`) -/
def G (c : Canon) : List String := stdHeadGlobals (varAtomHead c.auxName c.V) ++ bodyGlobals c.Sb
def use (c : Canon) (p : Place) : Use :=
  { line := p.line, col := p.col, head := p.head, body := p.body, rest := p.rest, auxName := c.auxName, V := c.V, Sb := c.Sb,
    σ := p.σ, la := c.la, ca := c.ca }
def split (c : Canon) (p : Place) : Split := (c.use p).split
end Canon

structure PlaceOk (c : Canon) (p : Place) : Prop where
  inv : ∀ v, p.σ (p.σ v) = v
  ok : Ok (c.split p)
  /-- a variable inside a local scope of `S` is global in the rule at this place iff it is in `aux(V̄) :- S.` (as `C16stm.Ok.scopeNew`) -/
  scopeCanon : ∀ v ∈ bodyScoped c.Sb, p.σ v ∈ (c.split p).G0 ↔ v ∈ c.G

def sd (c : Canon) (ps : List Place) (P0 : HT.Prog GAtom) : HT.SplitData GAtom (Fin ps.length × Env) (List Sym) where
  P0 := P0
  N := fun ie H T => bodySat P (fun v => v ∈ (c.split (ps.get ie.1)).G0) ie.2 H T (c.split (ps.get ie.1)).new
  R := fun ie H T => bodySat P (fun v => v ∈ (c.split (ps.get ie.1)).G0) ie.2 H T (ps.get ie.1).rest
  Hd := fun ie H T => stdHeadSat P (fun v => v ∈ (c.split (ps.get ie.1)).G0) ie.2 H T (ps.get ie.1).head
  t := fun ie => ((c.split (ps.get ie.1)).vs).map ie.2
  aux := fun k => ⟨c.auxName, k⟩
  aux_inj := by intro k k' h; cases h; rfl

theorem split_auxName (c : Canon) (p : Place) : (c.split p).auxName = c.auxName := rfl
theorem split_vs (c : Canon) (p : Place) : (c.split p).vs = c.V.map p.σ := rfl
theorem split_rest (c : Canon) (p : Place) : (c.split p).rest = p.rest := rfl
theorem split_head (c : Canon) (p : Place) : (c.split p).head = p.head := rfl

variable {P} in
theorem sd_place (c : Canon) (ps : List Place) (P0 : HT.Prog GAtom) (i : Fin ps.length) :
    (sd P c ps P0).place i =
      splitData (stdParams P) (fun v => v ∈ (c.split (ps.get i)).G0) (c.split (ps.get i)).syn P0 := rfl

/-- `before` and `after` list the context first: `ctx` stands for every statement that is neither the auxiliary rule nor a
place of use.  The program the pass reads and the one it prints have these statements in another order; stable models
depend on the set of statements only (`stable_of_same_statements`). -/
def before (c : Canon) (ps : List Place) (ctx : Prog) : Prog := ctx ++ ps.map fun p => (c.split p).orig
def after (c : Canon) (ps : List Place) (ctx : Prog) : Prog := ctx ++ c.stm :: ps.map fun p => (c.split p).updRule

def beforeWith (c : Canon) (ps : List Place) (ctx : Prog) : Prog := ctx ++ c.stm :: ps.map fun p => (c.split p).orig

def CtxAvoids (c : Canon) (ctx : Prog) : Prop := ∀ s ∈ ctx, C09sem.stmAvoids (nameSig c.auxName) s = true

def extendAll (c : Canon) (ps : List Place) (T : Interp) : Interp :=
  fun a => (¬ (∃ k, a = ⟨c.auxName, k⟩) ∧ T a) ∨
    ((∃ k, a = ⟨c.auxName, k⟩) ∧ ∃ (i : Fin ps.length) (e : Env), a = ⟨c.auxName, ((c.split (ps.get i)).vs).map e⟩ ∧
      bodySat P (fun v => v ∈ (c.split (ps.get i)).G0) e T T (c.split (ps.get i)).new)

theorem forall_mem_iff_get {α : Type} {l : List α} {Q : α → Prop} : (∀ x ∈ l, Q x) ↔ ∀ i : Fin l.length, Q (l.get i) :=
  ⟨fun h i => h _ (List.get_mem l i), fun h _ hx => let ⟨i, hi⟩ := List.mem_iff_get.mp hx; hi ▸ h i⟩

theorem seq_append_map {Q : PParams} {ι E : Type} {l : List ι} {f : ι → Stm}
    {body head : Fin l.length × E → Interp → Interp → Prop}
    (hf : ∀ i H T, stmSat Q H T (f (l.get i)) ↔ HT.Models (HT.family (fun e => body (i, e)) fun e => head (i, e)) H T)
    (ctx : Prog) : SEq (denote Q (ctx ++ l.map f)) (HT.Union (denote Q ctx) (HT.family body head)) := fun H T => by
  rw [models_denote, models_append, models_map, forall_mem_iff_get, ← models_denote, HT.models_union, HT.models_family_prod]
  exact and_congr_right fun _ => forall_congr' fun i => hf i H T

section
variable {P} {c : Canon} {p : Place} {ps : List Place} {P0 : HT.Prog GAtom} {H T : Interp}

theorem copy_sat (hp : PlaceOk c p) {e : Env} :
    bodySat P (fun v => v ∈ (c.split p).G0) e H T (c.split p).new ↔
      bodySat P (fun v => v ∈ c.G) (fun v => e (p.σ v)) H T c.Sb :=
  (bodySat_rename hp.inv).trans (bodySat_gcongr hp.scopeCanon)

theorem wf (hps : ∀ i : Fin ps.length, PlaceOk c (ps.get i)) (hpers : AggPersistent P)
    (hP0 : ∀ r, P0 r → HT.Indep (sd P c ps P0).A r) : (sd P c ps P0).WF :=
  HT.SplitData.wf_of_places _ hP0 fun i => C16sem.wf (cond_of_ok hpers (hps i).ok) hP0

theorem glue (hps : ∀ i : Fin ps.length, PlaceOk c (ps.get i)) : (sd P c ps P0).Glue := by
  apply HT.SplitData.glue_of_places
  · intro i
    rw [sd_place]
    exact C16sem.glue (hps i).ok.share fun _ _ h _ _ => stdHeadSat_congr h
  · -- the copy at place `j` read at `e'` is the copy at place `i` read at `e' ∘ σⱼ ∘ σᵢ`
    intro i j e'
    refine ⟨fun v => e' ((ps.get j).σ ((ps.get i).σ v)), ?_, fun H T => ?_⟩
    · show ((c.split (ps.get i)).vs).map _ = ((c.split (ps.get j)).vs).map e'
      simp only [split_vs, List.map_map, Function.comp_def, (hps i).inv]
    · show bodySat P _ _ H T (c.split (ps.get i)).new ↔ bodySat P _ e' H T (c.split (ps.get j)).new
      simp only [copy_sat (hps i), copy_sat (hps j), (hps i).inv]

/-- the rule is that of each place; from right to left there must be a place -/
theorem canon_auxRules (hps : ∀ i : Fin ps.length, PlaceOk c (ps.get i)) (hne : 0 < ps.length) :
    stmSat (stdParams P) H T c.stm ↔ HT.Models (sd P c ps P0).auxRules H T := by
  have place : ∀ i, stmSat (stdParams P) H T c.stm ↔ HT.Models ((sd P c ps P0).place i).auxRules H T := fun i =>
    ((canon_iff_auxRule (u := c.use (ps.get i)) (hps i).inv H T).trans (aux_models (hps i).ok)).trans
      (inst_aux (c.split (ps.get i)).syn (fun _ _ T _ _ => stdHeadSat_atom (fun v => v ∈ (c.split (ps.get i)).G0) T) H T)
  rw [HT.SplitData.models_auxRules_places]
  exact ⟨fun x i => (place i).mp x, fun y => (place ⟨0, hne⟩).mpr (y _)⟩

theorem seq_before (hps : ∀ i : Fin ps.length, PlaceOk c (ps.get i)) (ctx : Prog) :
    SEq (denote (stdParams P) (before c ps ctx)) (sd P c ps (denote (stdParams P) ctx)).orig :=
  HT.SplitData.orig_eq _ ▸ seq_append_map (l := ps)
    (fun i H T => orig_models.trans (inst_orig (c.split (ps.get i)).syn (hps i).ok.parts H T)) ctx

theorem seq_folded (hps : ∀ i : Fin ps.length, PlaceOk c (ps.get i)) (ctx : Prog) :
    SEq (denote (stdParams P) (ctx ++ ps.map fun p => (c.split p).updRule)) (sd P c ps (denote (stdParams P) ctx)).folded :=
  HT.SplitData.folded_eq _ ▸ seq_append_map (l := ps)
    (fun i H T => (upd_models (hps i).ok).trans (inst_folded (c.split (ps.get i)).syn H T)) ctx

theorem seq_after (hps : ∀ i : Fin ps.length, PlaceOk c (ps.get i)) (hne : 0 < ps.length) (ctx : Prog) :
    SEq (denote (stdParams P) (after c ps ctx))
      (HT.Union (sd P c ps (denote (stdParams P) ctx)).folded (sd P c ps (denote (stdParams P) ctx)).auxRules) :=
  seq_frame_then (fun _ _ => canon_auxRules hps hne) (seq_folded hps ctx)

theorem ext_eq (hw : (sd P c ps P0).WF) (T : Interp) : HT.ext ((sd P c ps P0).defs hw) T = extendAll P c ps T :=
  funext fun _ => propext (or_congr_right (and_congr_right fun _ => Prod.exists))

end

theorem factor_all_sound (hpers : AggPersistent P) (c : Canon) (ps : List Place) (hne : 0 < ps.length)
    (hps : ∀ p ∈ ps, PlaceOk c p) (ctx : Prog) (hctx : CtxAvoids c ctx) (T : Interp)
    (hT : Stable (stdParams P) (before c ps ctx) T) :
    Stable (stdParams P) (after c ps ctx) (extendAll P c ps T) :=
  have hps := forall_mem_iff_get.mp hps
  have hw := wf hps hpers (ctx_indep hctx)
  (stable_denote _).mp <| ext_eq hw T ▸ (sd P c ps _).sound_of_seq hw (glue hps)
    (seq_before hps ctx) (seq_after hps hne ctx) ((stable_denote T).mpr hT)

theorem factor_all_complete (hpers : AggPersistent P) (c : Canon) (ps : List Place) (hne : 0 < ps.length)
    (hps : ∀ p ∈ ps, PlaceOk c p) (ctx : Prog) (hctx : CtxAvoids c ctx) (T' : Interp)
    (hT' : Stable (stdParams P) (after c ps ctx) T') :
    ∃ T, Stable (stdParams P) (before c ps ctx) T ∧ ∀ a, T' a ↔ extendAll P c ps T a := by
  have hps := forall_mem_iff_get.mp hps
  have hw := wf hps hpers (ctx_indep (P := P) hctx)
  obtain ⟨T, hT, hext⟩ := (sd P c ps _).complete_of_seq hw (glue hps) (seq_before hps ctx)
    (seq_after hps hne ctx) ((stable_denote T').mpr hT')
  exact ⟨T, (stable_denote T).mp hT, fun a => ext_eq hw T ▸ hext a⟩

variable {P} in
/-- read left to right: `inline` of a helper into positive body literals and the unfolding of copy rules; right to
left: folding -/
theorem fold_all_existing (hpers : AggPersistent P) {c : Canon} {ps : List Place} (hne : 0 < ps.length)
    (hps : ∀ p ∈ ps, PlaceOk c p) {ctx : Prog} (hctx : CtxAvoids c ctx) (T : Interp) :
    Stable (stdParams P) (after c ps ctx) T ↔ Stable (stdParams P) (beforeWith c ps ctx) T := by
  have hps := forall_mem_iff_get.mp hps
  rw [← stable_denote, ← stable_denote]
  exact ((sd P c ps _).fold_of_seq (wf hps hpers (ctx_indep hctx)) (glue hps)
    (seq_frame_then (fun _ _ => canon_auxRules hps hne) (seq_before hps ctx)) (seq_after hps hne ctx) T).symm

theorem stable_of_same_statements (a b : Prog) (h : ∀ s, s ∈ a ↔ s ∈ b) (T : Interp) :
    Stable (stdParams P) a T ↔ Stable (stdParams P) b T :=
  StrongEq.stable (stdParams P) (.of_same h) T

def placeOf (line col : Nat) (head : Head) (body rest : List BLit) (pairs : List (String × String)) : Place :=
  { line := line, col := col, head := head, body := body, rest := rest, σ := C11check.swaps pairs }

def placeCheck (c : Canon) (line col : Nat) (head : Head) (body rest : List BLit) (pairs : List (String × String)) : Bool :=
  C11check.involOk pairs && splitCheck (c.split (placeOf line col head body rest pairs)) &&
  (bodyScoped c.Sb).all fun v =>
    iffB ((c.split (placeOf line col head body rest pairs)).G0.contains (C11check.swaps pairs v)) (c.G.contains v)

theorem placeCheck_sound {c : Canon} {line col : Nat} {head : Head} {body rest : List BLit} {pairs : List (String × String)}
    (h : placeCheck c line col head body rest pairs = true) : PlaceOk c (placeOf line col head body rest pairs) := by
  simp only [placeCheck, Bool.and_eq_true, List.all_eq_true] at h
  exact {
    inv := C11check.swaps_inv h.1.1
    ok := splitCheck_sound h.1.2
    scopeCanon := fun v hv => mem_iff_of_contains_beq (h.2 v hv) }

def ctxAvoidsCheck (c : Canon) (ctx : Prog) : Bool := ctx.all fun s => C09sem.stmAvoids (nameSig c.auxName) s

theorem ctxAvoidsCheck_sound {c : Canon} {ctx : Prog} (h : ctxAvoidsCheck c ctx = true) : CtxAvoids c ctx :=
  List.all_eq_true.mp h

end NgoVerif.Proofs.C10multi
