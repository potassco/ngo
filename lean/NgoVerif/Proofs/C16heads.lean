import NgoVerif.Model.Projection
import NgoVerif.Proofs.C20heads
import NgoVerif.Proofs.Except
/-!
# `projection` keeps every head and adds only plain-headed auxiliary rules

For the model `Model/Projection.lean` of `ProjectionTranslator.execute` (tied to the code by `corr_binding.py`):
every statement of the result is either a statement of the source, or the source rule with a *changed body and the
same head*, or a new rule whose head is a plain positive atom.
-/
namespace NgoVerif.Proofs.C16heads
open NgoVerif.Proofs.C20heads

def FromStm (o s : Stm) : Prop :=
  s = o ∨ (∃ l c h b b', o = .rule l c h b ∧ s = .rule l c h b') ∨ plainRule s = true

theorem projectLoop_shape {un un' : UniqueNames} {line col : Nat} {head : Head} {body : List BLit}
    {cands : List (List BLit)} {out : List Stm} (h : projectLoop un line col head body cands = .ok (out, un')) :
    out = [.rule line col head body] ∨
    ∃ new vars aux, new ∈ cands ∧
      goodSplit new (body.filter fun x => !x.memAst new) head body = .ok (some vars) ∧
      un.newAux vars.length = some (aux, un') ∧
      out = [.rule 1 1 (.lit (.pos, .sym (.fn aux.name (vars.map Term.var) false))) new,
             .rule line col head ((body.filter fun x => !x.memAst new) ++
               [.lit (.pos, .sym (.fn aux.name (vars.map Term.var) false))])] := by
  fun_induction projectLoop un line col head body cands
  case case1 => cases h; exact Or.inl rfl  -- no candidate left: the rule itself
  case case2 new cands _ ih =>  -- the candidate `new`
    obtain ⟨r, hg, h⟩ := Except.bind_eq_ok_iff.mp h
    cases r with
    | none => exact (ih h).imp_right fun ⟨n, v, a, hn, h2⟩ => ⟨n, v, a, List.mem_cons_of_mem _ hn, h2⟩
    | some vars =>
      dsimp only at h
      split at h
      · cases h
      · next hn => cases h; exact Or.inr ⟨new, vars, _, List.mem_cons_self, hg, hn, rfl⟩

theorem projectLoop_heads {un un' : UniqueNames} {line col : Nat} {head : Head} {body : List BLit}
    {cands : List (List BLit)} {out : List Stm} (h : projectLoop un line col head body cands = .ok (out, un')) :
    ∀ s ∈ out, FromStm (.rule line col head body) s := by
  rcases projectLoop_shape h with rfl | ⟨new, vars, aux, -, -, -, rfl⟩
  · exact fun s hs => Or.inl (List.mem_singleton.mp hs)
  · intro s hs
    simp only [List.mem_cons, List.not_mem_nil, or_false] at hs
    rcases hs with rfl | rfl
    · exact Or.inr (Or.inr rfl)
    · exact Or.inr (Or.inl ⟨line, col, head, body, _, rfl, rfl⟩)

theorem executeRest_heads {un : UniqueNames} {prg out : Prog} (h : executeRest un prg = .ok out) :
    ∀ s ∈ out, ∃ o ∈ prg, FromStm o s := by
  fun_induction executeRest un prg generalizing out
  case case1 => cases h; exact fun _ hs => nomatch hs  -- the empty program
  case case2 ih =>  -- a rule, through `projectRule`
    obtain ⟨⟨stms, un'⟩, hr, h⟩ := Except.bind_eq_ok_iff.mp h
    obtain ⟨tail, ht, h⟩ := Except.bind_eq_ok_iff.mp h
    cases h
    intro s hs
    rcases List.mem_append.mp hs with h1 | h1
    · exact ⟨_, List.mem_cons_self, projectLoop_heads hr s h1⟩
    · exact (ih un' ht s h1).imp fun o => And.imp_left (List.mem_cons_of_mem _)
  case case3 ih =>  -- any other statement, verbatim
    obtain ⟨tail, ht, h⟩ := Except.bind_eq_ok_iff.mp h
    cases h
    intro s hs
    rcases List.mem_cons.mp hs with rfl | h1
    · exact ⟨_, List.mem_cons_self, Or.inl rfl⟩
    · exact (ih ht s h1).imp fun o => And.imp_left (List.mem_cons_of_mem _)

end NgoVerif.Proofs.C16heads
