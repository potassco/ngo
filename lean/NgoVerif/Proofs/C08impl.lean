import NgoVerif.Sem.Head
import NgoVerif.Sem.DecEq
/-!
# `cleanup`: deleting a positive body literal that another body literal implies — for typed programs

`h :- …, p(s̄), q(t̄), … .`  becomes  `h :- …, p(s̄), … .`  when every rule that can derive an atom of `p` carries, in its
body (or, for a choice element, in its condition), the positive literal of `q` that the deleted one is an instance of.
Setting: programs whose rules have plain heads (a literal: atom, negated atom, comparison, `#false`; or a choice
`lg { a : c̄ ; … } rg` whose elements are positive atoms under plain conditions) and plain bodies (symbolic literals of any
sign, comparisons, boolean constants) - the fragment in which satisfaction of a body is monotone in the `here' world;
standard head semantics, every parameter choice whose double negation is evaluated in the total interpretation (the
bounds of a choice).  The argument is the one of `Meta/M6.lean` (`models_below` to `supp_least` under the same names), for
rule FAMILIES (all instances of the rewritten rule at once):

* `⇒`  a stable model `T` supports each of its atoms (`supported`): the instance that derives `p(s̄e)` has a true body,
  which contains `q(…)`, so `T` satisfies the shortened rule; a model of the shortened program is a model of the source.
* `⇐`  the least model of the source below `T` is a model of the shortened program - were `q(t̄e)` missing from it,
  deleting `p(s̄e)` would give a yet smaller model (`remove_atom_model`) - so it is `T`, and no `H ⊂ T` is a model of the source.

Both directions look at `q(t̄)` only in SUPPORTED interpretations (every atom has a derivation), so the deletion theorem
(`remove_entailed`) is stated for any body literal that holds there wherever the rest of the body does; `Implied` is the
instance `p(s̄) ⟹ q(t̄)`.
-/
namespace NgoVerif.Proofs.C08impl
open NgoVerif.Sem

variable (P : Params)

def plainLit : Lit → Bool
  | (_, .sym _) => true
  | (_, .cmp _ _) => true
  | (_, .bool _) => true
  | _ => false

def plainBLit : BLit → Bool
  | .lit l => plainLit l
  | _ => false

def plainBody (b : List BLit) : Bool := b.all plainBLit

def plainElem (c : CondLit) : Bool :=
  (match c.1 with
   | (.pos, .sym _) => true
   | _ => false) && c.2.all plainLit

def plainHead : Head → Bool
  | .lit l => plainLit l
  | .agg _ elems _ => elems.all plainElem
  | _ => false

def okStm : Stm → Bool
  | .rule _ _ h b => plainHead h && plainBody b
  | _ => true

/-- double negation (the bounds of a choice) is evaluated in the total interpretation only -/
def DnegOld : Prop := ∀ lg rg X Y, P.oldAggRel .dneg lg rg X Y ↔ P.oldAggRel .dneg lg rg Y Y

variable {P}

/-- only a positive atom looks at `H`; comparisons and constants unfold to a proposition without `H` and `G` -/
theorem litSat_mono {l : Lit} (hl : plainLit l = true) {G G' : String → Prop} {e : Env} {H₁ H₂ T : Interp}
    (h12 : Sub H₁ H₂) : litSat P G e H₁ T l → litSat P G' e H₂ T l := by
  obtain ⟨s, a⟩ := l
  cases a with
  | sym t =>
    cases s with
    | pos => exact fun ⟨a, ha, hH⟩ => ⟨a, ha, h12 a hH⟩
    | _ => exact id
  | cmp | bool => exact id
  | _ => cases hl

theorem litsSat_mono {c : List Lit} (hc : c.all plainLit = true) {G G' : String → Prop} {e : Env} {H₁ H₂ T : Interp}
    (h12 : Sub H₁ H₂) (h : litsSat P G e H₁ T c) : litsSat P G' e H₂ T c :=
  litsSat_iff.mpr fun l hl => litSat_mono (List.all_eq_true.mp hc l hl) h12 (litsSat_iff.mp h l hl)

theorem bodySat_mono {b : List BLit} (hb : plainBody b = true) {G G' : String → Prop} {e : Env} {H₁ H₂ T : Interp}
    (h12 : Sub H₁ H₂) (h : bodySat P G e H₁ T b) : bodySat P G' e H₂ T b := by
  intro l hl
  have hpl : plainBLit l = true := List.all_eq_true.mp hb l hl
  cases l with
  | lit l => exact litSat_mono hpl h12 (h _ hl)
  | clit c => cases hpl

theorem bodySat_G {b : List BLit} (hb : plainBody b = true) (G G' : String → Prop) {e : Env} {H T : Interp} :
    bodySat P G e H T b ↔ bodySat P G' e H T b :=
  ⟨bodySat_mono hb fun _ h => h, bodySat_mono hb fun _ h => h⟩

theorem free_pos_sym {G : String → Prop} {e : Env} {H T : Interp} {t : Term} :
    (litSat P G e H T (.pos, .sym t) ∨ ¬ litSat P G e T T (.pos, .sym t)) ↔ ∀ a, groundAtom P e t = some a → T a → H a := by
  constructor
  · rintro (⟨a, ha, hH⟩ | hn) a' ha' hT
    · cases ha.symm.trans ha'
      exact hH
    · exact absurd ⟨a', ha', hT⟩ hn
  · intro h
    by_cases hT : litSat P G e T T (.pos, .sym t)
    · obtain ⟨a, ha, hTa⟩ := hT
      exact Or.inl ⟨a, ha, h a ha hTa⟩
    · exact Or.inr hT

theorem head_cases {h : Head} (hh : plainHead h = true) :
    (∃ t, h = .lit (.pos, .sym t)) ∨ (∃ lg elems rg, h = .agg lg elems rg ∧ elems.all plainElem = true) ∨
      (∀ (G G' : String → Prop) (e : Env) (H H' T : Interp), stdHeadSat P G e H T h → stdHeadSat P G' e H' T h) := by
  cases h with
  | lit l =>
    obtain ⟨s, a⟩ := l
    cases a with
    | sym t =>
      cases s with
      | pos => exact Or.inl ⟨t, rfl⟩
      | _ => exact Or.inr (Or.inr fun _ _ _ _ _ _ => id)
    | cmp | bool => cases s <;> exact Or.inr (Or.inr fun _ _ _ _ _ _ => id)
    | _ => cases hh
  | agg lg elems rg => exact Or.inr (Or.inl ⟨lg, elems, rg, rfl, hh⟩)
  | _ => cases hh

theorem elem_shape {c : CondLit} (hc : plainElem c = true) : (∃ t, c.1 = (.pos, .sym t)) ∧ c.2.all plainLit = true := by
  obtain ⟨⟨s, a⟩, cond⟩ := c
  rw [plainElem, Bool.and_eq_true] at hc
  refine ⟨?_, hc.2⟩
  cases s with
  | pos =>
    cases a with
    | sym t => exact ⟨t, rfl⟩
    | _ => cases hc.1
  | _ => cases hc.1

def Ok (prg : Prog) : Prop := ∀ s ∈ prg, okStm s = true

theorem ok_rule {prg : Prog} (hok : Ok prg) {l c : Nat} {h : Head} {b : List BLit} (hs : Stm.rule l c h b ∈ prg) :
    plainHead h = true ∧ plainBody b = true :=
  Bool.and_eq_true_iff.mp (hok _ hs)

variable (P) in
/-- Bodies and conditions are read under `G := fun _ => True`: plain ones have no local scope, so `G` is never consulted
and any set does (`bodySat_G`). -/
def Derives (prg : Prog) (a : GAtom) (H T : Interp) : Prop :=
  (∃ l c t b e, Stm.rule l c (.lit (.pos, .sym t)) b ∈ prg ∧ groundAtom P e t = some a ∧
      bodySat P (fun _ => True) e H T b) ∨
  (∃ l c lg elems rg b cl t e e', Stm.rule l c (.agg lg elems rg) b ∈ prg ∧ cl ∈ elems ∧ cl.1 = (.pos, .sym t) ∧
      Agree (fun v => v ∈ ruleGlobals (stdParams P) (.agg lg elems rg) b) e e' ∧ groundAtom P e' t = some a ∧
      bodySat P (fun _ => True) e H T b ∧ litsSat P (fun _ => True) e' H T cl.2)

/-- `𝓗 = {H}` for deleting an underivable atom, all models below `T` for the least one -/
theorem models_below (hdn : DnegOld P) {prg : Prog} (hok : Ok prg) {X T : Interp} (𝓗 : Interp → Prop)
    (hne : ∃ H, 𝓗 H) (hsub : ∀ H, 𝓗 H → Sub X H) (hM : ∀ H, 𝓗 H → Models (stdParams P) prg H T)
    (hX : ∀ a, (∀ H, 𝓗 H → H a ∧ Derives P prg a H T) → X a) : Models (stdParams P) prg X T := by
  obtain ⟨H₀, h₀⟩ := hne
  intro s hs
  cases s with
  | rule l c h b =>
    obtain ⟨hh, hb⟩ := ok_rule hok hs
    have hsat : ∀ H, 𝓗 H → ∀ e, _ := fun H hH => stmSat_rule.mp (hM H hH _ hs)
    refine stmSat_rule.mpr fun e => ⟨fun hbody => ?_, (hsat H₀ h₀ e).2⟩
    have key : ∀ H, 𝓗 H → bodySat P (fun _ => True) e H T b ∧
        stdHeadSat P (fun v => v ∈ ruleGlobals (stdParams P) h b) e H T h := fun H hH =>
      ⟨bodySat_mono hb (hsub H hH) hbody, (hsat H hH e).1 (bodySat_mono hb (hsub H hH) hbody)⟩
    show stdHeadSat P (fun v => v ∈ ruleGlobals (stdParams P) h b) e X T h
    rcases head_cases (P := P) hh with ⟨t, rfl⟩ | ⟨lg, elems, rg, rfl, hel⟩ | hconst
    · rw [stdHeadSat_lit, headLitSat_pos_sym]
      intro a ha
      exact hX a fun H hH => ⟨(key H hH).2 a ha, Or.inl ⟨l, c, t, b, e, hs, ha, (key H hH).1⟩⟩
    · rw [stdHeadSat_agg]
      -- the bounds are read in `T` alone
      refine ⟨fun cl hcl e' hag hcond => ?_, (hdn _ _ _ _).mpr ((hdn _ _ _ _).mp (stdHeadSat_agg.mp (key H₀ h₀).2).2)⟩
      obtain ⟨⟨t, ht⟩, hplain⟩ := elem_shape (List.all_eq_true.mp hel cl hcl)
      rw [ht, free_pos_sym]
      intro a ha hTa
      refine hX a fun H hH => ?_
      have hc : ∀ G', litsSat P G' e' H T cl.2 := fun _ => litsSat_mono hplain (hsub H hH) hcond
      have hfree := (stdHeadSat_agg.mp (key H hH).2).1 cl hcl e' hag (hc _)
      rw [ht, free_pos_sym] at hfree
      exact ⟨hfree a ha hTa, Or.inr ⟨l, c, lg, elems, rg, b, cl, t, e, e', hs, hcl, ht, hag, ha, (key H hH).1, hc _⟩⟩
    · exact hconst _ _ e H₀ _ T (key H₀ h₀).2
  | _ => trivial

variable (P) in
theorem remove_atom_model (hdn : DnegOld P) (prg : Prog) (hok : Ok prg) {H T : Interp} (hM : Models (stdParams P) prg H T)
    (a : GAtom) (hblock : ¬ Derives P prg a H T) :
    Models (stdParams P) prg (fun x => H x ∧ x ≠ a) T := by
  refine models_below hdn hok (· = H) ⟨H, rfl⟩ ?_ ?_ fun x h => ?_
  · rintro _ rfl; exact fun _ hx => hx.1
  · rintro _ rfl; exact hM
  · obtain ⟨hx, hd⟩ := h H rfl
    exact ⟨hx, fun e => hblock (e ▸ hd)⟩

variable (P) in
def Supp (prg : Prog) (X T : Interp) : Prop := ∀ a, X a → Derives P prg a X T

theorem supp_of_minimal (hdn : DnegOld P) {prg : Prog} (hok : Ok prg) {X T : Interp} (hM : Models (stdParams P) prg X T)
    (hmin : ∀ a, X a → ¬ Models (stdParams P) prg (fun x => X x ∧ x ≠ a) T) : Supp P prg X T :=
  fun a ha => Classical.byContradiction fun hno => hmin a ha (remove_atom_model P hdn prg hok hM a hno)

variable (P) in
theorem supported (hdn : DnegOld P) (prg : Prog) (hok : Ok prg) {T : Interp} (hS : Stable (stdParams P) prg T) (a : GAtom)
    (ha : T a) : Derives P prg a T T :=
  supp_of_minimal hdn hok hS.1 (fun a ha hM => (hS.least (fun _ hx => hx.1) hM a ha).2 rfl) a ha

variable (P) in
def least (prg : Prog) (T : Interp) : Interp := fun a => ∀ H, Sub H T → Models (stdParams P) prg H T → H a

theorem least_sub {prg : Prog} {T : Interp} (hT : Models (stdParams P) prg T T) : Sub (least P prg T) T :=
  fun _ h => h T (fun _ x => x) hT

theorem least_le {prg : Prog} {H T : Interp} (hHT : Sub H T) (hM : Models (stdParams P) prg H T) : Sub (least P prg T) H :=
  fun _ h => h H hHT hM

variable (P) in
theorem least_model (hdn : DnegOld P) (prg : Prog) (hok : Ok prg) {T : Interp} (hT : Models (stdParams P) prg T T) :
    Models (stdParams P) prg (least P prg T) T :=
  models_below hdn hok (fun H => Sub H T ∧ Models (stdParams P) prg H T) ⟨T, fun _ x => x, hT⟩
    (fun _ hH => least_le hH.1 hH.2) (fun _ hH => hH.2) fun _ h H hHT hM => (h H ⟨hHT, hM⟩).1

theorem supp_least (hdn : DnegOld P) {prg : Prog} (hok : Ok prg) {T : Interp} (hT : Models (stdParams P) prg T T) :
    Supp P prg (least P prg T) T :=
  supp_of_minimal hdn hok (least_model P hdn prg hok hT) fun _ ha hM =>
    (ha _ (fun x h => least_sub hT x h.1) hM).2 rfl

theorem plainBody_tail {x : BLit} {b : List BLit} (h : plainBody (x :: b) = true) : plainBody b = true := by
  rw [plainBody, List.all_cons, Bool.and_eq_true] at h
  exact h.2

theorem bodySat_entailed {x : BLit} {b : List BLit} (hplain : plainBody (x :: b) = true) {e : Env} {X T : Interp}
    (hx : bodySat P (fun _ => True) e X T b → blitSat P (fun _ => True) e X T x) {G G' : String → Prop} :
    bodySat P G e X T (x :: b) ↔ bodySat P G' e X T b := by
  rw [bodySat_G hplain G fun _ => True, bodySat_G (plainBody_tail hplain) G' fun _ => True, bodySat_cons]
  exact and_iff_right_of_imp hx

section
variable {pre post : Prog} {l c : Nat} {h : Head} {x : BLit} {b : List BLit}

theorem sameG (hG : ∀ v, v ∈ ruleGlobals (stdParams P) h (x :: b) ↔ v ∈ ruleGlobals (stdParams P) h b) :
    (fun v => v ∈ ruleGlobals (stdParams P) h (x :: b)) = (fun v => v ∈ ruleGlobals (stdParams P) h b) :=
  funext fun v => propext (hG v)

theorem models_longer (hG : ∀ v, v ∈ ruleGlobals (stdParams P) h (x :: b) ↔ v ∈ ruleGlobals (stdParams P) h b)
    {H T : Interp} (hM : Models (stdParams P) (pre ++ .rule l c h b :: post) H T) :
    Models (stdParams P) (pre ++ .rule l c h (x :: b) :: post) H T := by
  rw [models_frame, stmSat_rule] at hM ⊢
  rw [sameG hG]
  exact ⟨fun e => ⟨fun hb => (hM.1 e).1 (bodySat_cons.mp hb).2, fun hb => (hM.1 e).2 (bodySat_cons.mp hb).2⟩, hM.2⟩

theorem remove_entailed (hG : ∀ v, v ∈ ruleGlobals (stdParams P) h (x :: b) ↔ v ∈ ruleGlobals (stdParams P) h b)
    (hdn : DnegOld P) (hok : Ok (pre ++ .rule l c h (x :: b) :: post)) {T : Interp}
    (hx : ∀ X, Sub X T → Supp P (pre ++ .rule l c h (x :: b) :: post) X T → ∀ e,
      bodySat P (fun _ => True) e X T b → blitSat P (fun _ => True) e X T x) :
    Stable (stdParams P) (pre ++ .rule l c h (x :: b) :: post) T ↔ Stable (stdParams P) (pre ++ .rule l c h b :: post) T := by
  have hplain := (ok_rule hok (List.mem_append_right _ List.mem_cons_self)).2
  have half : ∀ X, Sub X T → Supp P (pre ++ .rule l c h (x :: b) :: post) X T →
      Models (stdParams P) (pre ++ .rule l c h (x :: b) :: post) X T → ∀ e,
      bodySat P (fun v => v ∈ ruleGlobals (stdParams P) h b) e X T b →
        stdHeadSat P (fun v => v ∈ ruleGlobals (stdParams P) h b) e X T h := by
    intro X hXT hX hM e hbody
    rw [models_frame, stmSat_rule, sameG hG] at hM
    exact (hM.1 e).1 ((bodySat_entailed hplain (hx X hXT hX e)).mpr hbody)
  constructor
  · intro hS
    refine ⟨?_, fun H hHT hne hM => hS.2 H hHT hne (models_longer hG hM)⟩
    have := half T (fun _ h => h) (supported P hdn _ hok hS) hS.1
    exact models_frame.mpr ⟨fun e => ⟨this e, this e⟩, (models_frame.mp hS.1).2⟩
  · intro hS
    have hMT := models_longer hG hS.1
    have hL := least_model P hdn _ hok hMT
    -- the least model of the source below `T` is a model of the shortened program, so it is `T`
    have hTL : Sub T (least P _ T) := hS.least (least_sub hMT) <|
      models_frame.mpr ⟨fun e => ⟨half _ (least_sub hMT) (supp_least hdn hok hMT) hL e, ((models_frame.mp hS.1).1 e).2⟩,
        (models_frame.mp hL).2⟩
    exact ⟨hMT, fun H hHT ⟨a, ha, hna⟩ hM => hna (least_le hHT hM a (hTL a ha))⟩

end

structure Rewrite where
  pre : Prog
  post : Prog
  line : Nat
  col : Nat
  head : Head
  body : List BLit          -- the body after the deletion
  pn : String
  pargs : List Term
  qn : String
  qargs : List Term

namespace Rewrite
def pLit (R : Rewrite) : BLit := .lit (.pos, .sym (.fn R.pn R.pargs false))
def qLit (R : Rewrite) : BLit := .lit (.pos, .sym (.fn R.qn R.qargs false))
def src (R : Rewrite) : Prog := R.pre ++ .rule R.line R.col R.head (R.qLit :: R.body) :: R.post
def res (R : Rewrite) : Prog := R.pre ++ .rule R.line R.col R.head R.body :: R.post
end Rewrite

variable (P) in
/-- `imp` speaks of supported interpretations, through which a chain of implications `p ⟸ r ⟸ q` can be followed -/
structure Implied (R : Rewrite) : Prop where
  pmem : R.pLit ∈ R.body
  globals : ∀ v, v ∈ ruleGlobals (stdParams P) R.head (R.qLit :: R.body) ↔ v ∈ ruleGlobals (stdParams P) R.head R.body
  imp : ∀ e vals, evalTerms P e R.pargs = some vals → ∀ X T, Supp P R.src X T → X ⟨R.pn, vals⟩ →
    ∃ qvals, evalTerms P e R.qargs = some qvals ∧ X ⟨R.qn, qvals⟩

theorem implied_sat {pn qn : String} {pargs qargs : List Term} {body : List BLit} {e : Env} {X T : Interp}
    (hp : BLit.lit (.pos, .sym (.fn pn pargs false)) ∈ body)
    (himp : ∀ vals, evalTerms P e pargs = some vals → X ⟨pn, vals⟩ → ∃ qvals, evalTerms P e qargs = some qvals ∧ X ⟨qn, qvals⟩)
    {G G' : String → Prop} (hb : bodySat P G e X T body) : blitSat P G' e X T (.lit (.pos, .sym (.fn qn qargs false))) := by
  obtain ⟨vals, hv, hX⟩ := blitSat_pos_fn.mp (hb _ hp)
  exact blitSat_pos_fn.mpr (himp vals hv hX)

theorem remove_implied (hdn : DnegOld P) {R : Rewrite} (hok : Ok R.src) (himp : Implied P R) (T : Interp) :
    Stable (stdParams P) R.src T ↔ Stable (stdParams P) R.res T :=
  remove_entailed himp.globals hdn hok fun X _ hX e =>
    implied_sat himp.pmem fun vals hv => himp.imp e vals hv X T hX

/-- an argument of the literal of `q` next to a derivation of `p`: a variable that the derived atom carries at a position
where the using rule's `p`-literal carries the deleted literal's argument, or the same constant -/
def posArgOk (hargs pargs : List Term) (w q : Term) : Bool :=
  match w with
  | .var v => (hargs.zip pargs).any fun x => termEqb x.1 (.var v) && termEqb x.2 q
  | .sym c => termEqb q (.sym c)
  | _ => false

theorem posArgOk_sound {e e' : Env} {hargs pargs : List Term} {vals : List Sym} (hh : evalTerms P e' hargs = some vals)
    (hp : evalTerms P e pargs = some vals) {w q : Term} (h : posArgOk hargs pargs w q = true) :
    evalTerm P e' w = evalTerm P e q := by
  cases w with
  | var v =>
    obtain ⟨x, hx, h12⟩ := List.any_eq_true.mp h
    rw [Bool.and_eq_true] at h12
    rw [← termEqb_eq _ _ h12.1, ← termEqb_eq _ _ h12.2]
    exact evalTerms_zip hh hp hx
  | sym c =>
    rw [termEqb_eq _ _ h]
    simp only [evalTerm]
  | _ => cases h

def qMatch (hargs pargs : List Term) (qn : String) (qargs : List Term) : Lit → Bool
  | (.pos, .sym (.fn qn' wargs false)) =>
    qn' == qn && wargs.length == qargs.length && (wargs.zip qargs).all fun x => posArgOk hargs pargs x.1 x.2
  | _ => false

theorem qMatch_shape {hargs pargs : List Term} {qn : String} {qargs : List Term} {l : Lit}
    (hm : qMatch hargs pargs qn qargs l = true) : ∃ qn' wargs, l = (.pos, .sym (.fn qn' wargs false)) := by
  unfold qMatch at hm
  split at hm
  · exact ⟨_, _, rfl⟩
  · cases hm

theorem qMatch_sound {e e' : Env} {hargs pargs : List Term} {vals : List Sym} (hh : evalTerms P e' hargs = some vals)
    (hp : evalTerms P e pargs = some vals) {qn r : String} {qargs uargs : List Term}
    (hm : qMatch hargs pargs qn qargs (.pos, .sym (.fn r uargs false)) = true) :
    r = qn ∧ evalTerms P e' uargs = evalTerms P e qargs := by
  simp only [qMatch, Bool.and_eq_true, beq_iff_eq, List.all_eq_true] at hm
  exact ⟨hm.1.1, evalTerms_of_zip hm.1.2 fun x hx => posArgOk_sound hh hp (hm.2 x hx)⟩

def ruleImplies (pn : String) (pargs : List Term) (qn : String) (qargs : List Term) : Stm → Bool
  | .rule _ _ (.lit (.pos, .sym (.fn n hargs false))) b =>
    if n == pn && hargs.length == pargs.length then
      b.any fun l =>
        match l with
        | .lit l' => qMatch hargs pargs qn qargs l'
        | _ => false
    else true
  | .rule _ _ (.agg _ elems _) b =>
    elems.all fun cl =>
      match cl.1 with
      | (.pos, .sym (.fn n hargs false)) =>
        if n == pn && hargs.length == pargs.length then
          (cl.2.any fun l => qMatch hargs pargs qn qargs l) ||
            b.any fun l =>
              match l with
              | .lit l' => qMatch hargs pargs qn qargs l'
              | _ => false
        else true
      | _ => true
  | _ => true

def qVarsOk (R : Rewrite) : Bool :=
  (R.qargs.flatMap Term.vars).all fun v => (stdHeadGlobals R.head ++ bodyGlobals R.body).contains v

def impliedCheck (R : Rewrite) : Bool :=
  R.src.all okStm && blitMem R.pLit R.body && qVarsOk R && R.src.all (ruleImplies R.pn R.pargs R.qn R.qargs)

/-- the common shape of `ruleImplies` and `C08trans.stmYields` -/
def stmCarries (test : List Term → Lit → Bool) (p : String) (k : Nat) : Stm → Bool
  | .rule _ _ (.lit (.pos, .sym (.fn n hargs false))) b =>
    if n == p && hargs.length == k then
      b.any fun l =>
        match l with
        | .lit l' => test hargs l'
        | _ => false
    else true
  | .rule _ _ (.agg _ elems _) b =>
    elems.all fun cl =>
      match cl.1 with
      | (.pos, .sym (.fn n hargs false)) =>
        if n == p && hargs.length == k then
          (cl.2.any fun l => test hargs l) ||
            b.any fun l =>
              match l with
              | .lit l' => test hargs l'
              | _ => false
        else true
      | _ => true
  | _ => true

theorem ruleImplies_eq (pn : String) (pargs : List Term) (qn : String) (qargs : List Term) :
    ruleImplies pn pargs qn qargs = stmCarries (fun hargs => qMatch hargs pargs qn qargs) pn pargs.length := rfl

theorem exists_lit_of_any {test : Lit → Bool} {b : List BLit}
    (h : (b.any fun l => match l with | .lit l' => test l' | _ => false) = true) : ∃ l', .lit l' ∈ b ∧ test l' = true := by
  obtain ⟨bl, hbl, hm⟩ := List.any_eq_true.mp h
  cases bl with
  | lit l' => exact ⟨l', hbl, hm⟩
  | clit _ => cases hm

theorem carried_of_derives {test : List Term → Lit → Bool}
    (hshape : ∀ {hargs l}, test hargs l = true → ∃ r uargs, l = (.pos, .sym (.fn r uargs false)))
    {prg : Prog} {p : String} {k : Nat} (hall : ∀ s ∈ prg, stmCarries test p k s = true)
    {vals : List Sym} (hlen : vals.length = k) {X T : Interp} (hd : Derives P prg ⟨p, vals⟩ X T) :
    ∃ hargs r uargs e' uv, test hargs (.pos, .sym (.fn r uargs false)) = true ∧ evalTerms P e' hargs = some vals ∧
      evalTerms P e' uargs = some uv ∧ X ⟨r, uv⟩ := by
  suffices ∃ hargs l e', test hargs l = true ∧ evalTerms P e' hargs = some vals ∧ litSat P (fun _ => True) e' X T l by
    obtain ⟨hargs, l, e', hm, hhv, hsat⟩ := this
    obtain ⟨r, uargs, rfl⟩ := hshape hm
    obtain ⟨uv, huv, hX⟩ := litSat_pos_fn.mp hsat
    exact ⟨hargs, r, uargs, e', uv, hm, hhv, huv, hX⟩
  rcases hd with ⟨l, c, t, b, e', hs, hg, hbody⟩ | ⟨l, c, lg, elems, rg, b, cl, t, e, e', hs, hcl, ht, hagr, hg, hbody, hcond⟩
  · obtain ⟨hargs, rfl, hhv⟩ := groundAtom_eq_mk hg
    have hk : hargs.length = k := by rw [← evalTerms_length hhv, hlen]
    have hy := hall _ hs
    simp only [stmCarries, hk, beq_self_eq_true, Bool.and_self, if_true] at hy
    obtain ⟨l', hl', hm⟩ := exists_lit_of_any hy
    exact ⟨hargs, l', e', hm, hhv, hbody _ hl'⟩
  · obtain ⟨hargs, rfl, hhv⟩ := groundAtom_eq_mk hg
    have hk : hargs.length = k := by rw [← evalTerms_length hhv, hlen]
    have hy := List.all_eq_true.mp (hall _ hs) cl hcl
    rw [ht] at hy
    simp only [hk, beq_self_eq_true, Bool.and_self, if_true, Bool.or_eq_true] at hy
    rcases hy with hy | hy
    · obtain ⟨l', hl', hm⟩ := List.any_eq_true.mp hy
      exact ⟨hargs, l', e', hm, hhv, litsSat_iff.mp hcond l' hl'⟩
    · obtain ⟨l', hl', hm⟩ := exists_lit_of_any hy
      -- a variable of a positive body atom is a global variable of the rule: the two environments agree on it
      have hglob : ∀ v ∈ litVars l', v ∈ ruleGlobals (stdParams P) (.agg lg elems rg) b := fun v hv => by
        obtain ⟨r', uargs', rfl⟩ := hshape hm
        exact List.mem_append_right _ (List.mem_flatMap.mpr ⟨_, hl', hv⟩)
      exact ⟨hargs, l', e', hm, hhv,
        (litSat_congr fun v hv => (hagr v (hglob v hv)).symm).mp (hbody _ hl')⟩

theorem imp_of_ruleImplies {prg : Prog} {pn : String} {pargs : List Term} {qn : String} {qargs : List Term}
    (himp : ∀ s ∈ prg, ruleImplies pn pargs qn qargs s = true) {e : Env} {vals : List Sym}
    (hv : evalTerms P e pargs = some vals) {H T : Interp} (hd : Derives P prg ⟨pn, vals⟩ H T) :
    ∃ qvals, evalTerms P e qargs = some qvals ∧ H ⟨qn, qvals⟩ := by
  obtain ⟨hargs, r, uargs, e', uv, hm, hhv, huv, hH⟩ := carried_of_derives qMatch_shape
    (ruleImplies_eq pn pargs qn qargs ▸ himp) (evalTerms_length hv) hd
  obtain ⟨rfl, hq⟩ := qMatch_sound hhv hv hm
  exact ⟨uv, hq ▸ huv, hH⟩

theorem impliedCheck_globals {R : Rewrite} (hqv : qVarsOk R = true) :
    ∀ v, v ∈ ruleGlobals (stdParams P) R.head (R.qLit :: R.body) ↔ v ∈ ruleGlobals (stdParams P) R.head R.body :=
  ruleGlobals_cons_of_sub fun v hv =>
    List.mem_append.mp (List.contains_iff_mem.mp (List.all_eq_true.mp hqv v (blitGlobals_fn .. ▸ hv)))

theorem impliedCheck_sound {R : Rewrite} (h : impliedCheck R = true) : Ok R.src ∧ Implied P R := by
  simp only [impliedCheck, Bool.and_eq_true, List.all_eq_true] at h
  obtain ⟨⟨⟨hok, hp⟩, hqv⟩, himp⟩ := h
  exact ⟨hok, blitMem_mem hp, impliedCheck_globals hqv,
    fun _ _ hv X _ hsupp hX => imp_of_ruleImplies himp hv (hsupp _ hX)⟩

def sameLits (a b : List BLit) : Bool := a.all (fun x => blitMem x b) && b.all (fun x => blitMem x a)

theorem sameLits_sound {a b : List BLit} (h : sameLits a b = true) : ∀ x, x ∈ a ↔ x ∈ b := by
  simp only [sameLits, Bool.and_eq_true, List.all_eq_true] at h
  exact fun x => ⟨fun hx => blitMem_mem (h.1 x hx), fun hx => blitMem_mem (h.2 x hx)⟩

theorem sameLits_bodyEq {Q : Params} {a b : List BLit} (h : sameLits a b = true) : BodyEq Q a b :=
  .of_same (sameLits_sound h)

theorem remove_implied_anywhere (hdn : DnegOld P) {R : Rewrite} (h : Ok R.src ∧ Implied P R) {bb : List BLit}
    (hbb : sameLits bb (R.qLit :: R.body) = true) (T : Interp) :
    Stable (stdParams P) (R.pre ++ .rule R.line R.col R.head bb :: R.post) T ↔ Stable (stdParams P) R.res T :=
  (StrongEq.stable _ (StrongEq.replace ((sameLits_bodyEq hbb).stmSat_congr R.head)
    R.pre R.post) T).trans (remove_implied hdn h.1 h.2 T)

structure ObjRewrite where
  pre : Prog
  post : Prog
  line : Nat
  col : Nat
  weight : Term
  prio : Term
  terms : List Term
  body : List BLit          -- the body after the deletion
  pn : String
  pargs : List Term
  qn : String
  qargs : List Term

namespace ObjRewrite
def pLit (R : ObjRewrite) : BLit := .lit (.pos, .sym (.fn R.pn R.pargs false))
def qLit (R : ObjRewrite) : BLit := .lit (.pos, .sym (.fn R.qn R.qargs false))
def srcStm (R : ObjRewrite) : Stm := .minimize R.line R.col R.weight R.prio R.terms (R.qLit :: R.body)
def resStm (R : ObjRewrite) : Stm := .minimize R.line R.col R.weight R.prio R.terms R.body
def src (R : ObjRewrite) : Prog := R.pre ++ R.srcStm :: R.post
def res (R : ObjRewrite) : Prog := R.pre ++ R.resStm :: R.post
end ObjRewrite

theorem costTuples_entailed {x : BLit} {b : List BLit} (hplain : plainBody (x :: b) = true) {T : Interp}
    (hx : ∀ e, bodySat P (fun _ => True) e T T b → blitSat P (fun _ => True) e T T x) {l c : Nat} (w p : Term)
    (ts : List Term) (tup : Sym × Sym × List Sym) :
    costTuples (stdParams P) T (.minimize l c w p ts (x :: b)) tup ↔ costTuples (stdParams P) T (.minimize l c w p ts b) tup :=
  exists_congr fun e => and_congr_left' (bodySat_entailed hplain (hx e))

def objImpliedCheck (R : ObjRewrite) : Bool :=
  R.src.all okStm && plainBody (R.qLit :: R.body) && blitMem R.pLit R.body &&
  R.src.all (ruleImplies R.pn R.pargs R.qn R.qargs)

variable (P) in
theorem obj_of_check (hdn : DnegOld P) (R : ObjRewrite) (h : objImpliedCheck R = true) (T : Interp) :
    (Stable (stdParams P) R.src T ↔ Stable (stdParams P) R.res T) ∧
      (Stable (stdParams P) R.src T → ∀ tup, costTuples (stdParams P) T R.srcStm tup ↔ costTuples (stdParams P) T R.resStm tup) := by
  simp only [objImpliedCheck, Bool.and_eq_true, List.all_eq_true] at h
  obtain ⟨⟨⟨hok, hbody⟩, hp⟩, himp⟩ := h
  refine ⟨(StrongEq.replace_minimize R.pre R.post).stable _ T, fun hS tup => ?_⟩
  -- in a stable model `p(vals)` has a derivation, and every rule deriving `p` carries `q`
  have hq : ∀ e, bodySat P (fun _ => True) e T T R.body → blitSat P (fun _ => True) e T T R.qLit := fun _ =>
    implied_sat (blitMem_mem hp) fun _ hv hX => imp_of_ruleImplies himp hv (supported P hdn R.src hok hS _ hX)
  exact costTuples_entailed hbody hq R.weight R.prio R.terms tup

end NgoVerif.Proofs.C08impl
