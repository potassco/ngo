import NgoVerif.Proofs.C08anonCond
/-!
`Proofs/C08anonCond.lean` lifted to rules: the body literal at one position is a conditional literal or a body aggregate,
one of its conditions loses the weaker copy.
-/
namespace NgoVerif.Proofs.C08anonStm
open NgoVerif.Sem NgoVerif.Proofs.C08anonCond

variable {P : Params}

def sameLitList (a b : List Lit) : Bool := a.all (fun x => b.any (fun y => litEqb x y)) && b.all (fun x => a.any (fun y => litEqb x y))

theorem sameLitList_sound {a b : List Lit} (h : sameLitList a b = true) : ∀ x, x ∈ a ↔ x ∈ b := by
  simp only [sameLitList, Bool.and_eq_true, List.all_eq_true] at h
  exact fun x => ⟨fun hx => mem_of_any_eqb litEqb_eq (h.1 x hx), fun hx => mem_of_any_eqb litEqb_eq (h.2 x hx)⟩

def outsideClit (h : Head) (pre post : List BLit) (hd : Lit) : List String :=
  h.vars ++ (pre ++ post).flatMap BLit.vars ++ litVars hd

theorem stmSat_of_condCheck_clit {A : CondAnon} {l c : Nat} {h : Head} {pre post : List BLit} {hd : Lit}
    {cfull : List Lit} (hsame : sameLitList cfull (A.qLit :: A.cond) = true)
    (hc : condCheck A (outsideClit h pre post hd) = true) (H T : Interp) :
    stmSat (stdParams P) H T (.rule l c h (pre ++ .clit (hd, cfull) :: post)) ↔
      stmSat (stdParams P) H T (.rule l c h (pre ++ .clit (hd, A.cond) :: post)) := by
  obtain ⟨hp, hw, hcond, hout⟩ := condCheck_sound hc
  refine stmSat_replace_blit h pre post (fun _ => by rfl) (fun e X T' => ?_) H T
  exact (condLitSat_congr_cond hd fun _ _ _ => litsSat_same (sameLitList_sound hsame)).trans
    (weaker_condLit hw hp hcond
      (hG := fun v hv => hout v (ruleGlobals_sub hv fun _ hv => (List.not_mem_nil hv).elim))
      (hhd := fun v hv => hout v (List.mem_append_right _ hv)))

def outsideBagg (h : Head) (pre post : List BLit) (lg rg : Option Guard) (epre epost : List BAggElem) (ts : List Term) :
    List String :=
  h.vars ++ (pre ++ post).flatMap BLit.vars ++
    ((optGuardTerms lg ++ optGuardTerms rg).flatMap Term.vars ++ (bElemsTerms (epre ++ epost)).flatMap Term.vars ++ ts.flatMap Term.vars)

theorem stmSat_of_condCheck_bagg {A : CondAnon} {l c : Nat} {h : Head} {pre post : List BLit} {s : Sign} {ln cl : Nat}
    {lg rg : Option Guard} {f : AggFun} {epre epost : List BAggElem} {ts : List Term} {cfull : List Lit}
    (hsame : sameLitList cfull (A.qLit :: A.cond) = true)
    (hc : condCheck A (outsideBagg h pre post lg rg epre epost ts) = true) (H T : Interp) :
    stmSat (stdParams P) H T (.rule l c h (pre ++ .lit (s, .bagg ln cl lg f (epre ++ (ts, cfull) :: epost) rg) :: post)) ↔
      stmSat (stdParams P) H T (.rule l c h (pre ++ .lit (s, .bagg ln cl lg f (epre ++ (ts, A.cond) :: epost) rg) :: post)) := by
  obtain ⟨hp, hw, hcond, hout⟩ := condCheck_sound hc
  refine stmSat_replace_blit h pre post (fun _ => by rfl) (fun e X T' => ?_) H T
  -- first the element's condition `cfull` is read as `p(t̄) :: cond`
  refine (litSat_bagg_congr s ln cl lg rg f fun W tup => ?_).trans
    (weaker_bagg hw hp hcond (hG := fun v hv => hout v ?_)
      (htt := fun v hv => hout v (List.mem_append_right _ (List.mem_append_right _ hv))) ln cl)
  · simp only [bTuples_append, bTuples_cons, litsSat_same (sameLitList_sound hsame), CondAnon.qLit]
  · exact ruleGlobals_sub hv fun v hv => List.mem_append_left _ (List.mem_append_left _ hv)

end NgoVerif.Proofs.C08anonStm
