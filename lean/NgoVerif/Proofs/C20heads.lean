import NgoVerif.Model.Dependency
import NgoVerif.Proofs.Except
/-!
# Every rule the domain / order templates of `dependency.py` emit has a plain positive atom head

(model functions `createDomain`, `createNext`, `createChain` of `Model/Dependency.lean`).  A plain head is what makes the
added rules a *definitional* (positive, deterministic) extension: no choice, no disjunction, no aggregate in a head.
-/
namespace NgoVerif.Proofs.C20heads
open NgoVerif.Dep

def plainRule : Stm → Bool
  | .rule _ _ (.lit (.pos, .sym (.fn _ _ false))) _ => true
  | _ => false

theorem projLit_plain (p : Pred) (m : Nat → Option Term) (b : List BLit) (l c : Nat) :
    plainRule (.rule l c (.lit (projLit p m)) b) = true := rfl

theorem createNext_plain {st st' : DomState} {ap : APred} {pos : Nat} {rs : List Stm}
    (h : createNext st ap pos = .ok (rs, st')) : rs.all plainRule = true := by
  simp only [createNext, Except.throw_bind, Except.ite_throw_eq_ok, Except.bind_eq_ok_iff] at h
  -- the two guards, then value and equation of `minAnon`, `maxAnon`, `nextAnon`, `domainPredicate`: only the names
  -- they return enter the rules, so all that is kept is the final `pure`
  obtain ⟨-, -, _, -, _, -, _, -, _, -, h⟩ := h
  cases h
  simp only [List.all_cons, projLit_plain, List.all_nil, Bool.and_self]

theorem createChain_plain {st st' : DomState} {ap : APred} {pos : Nat} {mx : Bool} {rs : List Stm}
    (h : createChain st ap pos mx = .ok (rs, st')) : rs.all plainRule = true := by
  simp only [createChain, Except.throw_bind, Except.ite_throw_eq_ok, Except.bind_eq_ok_iff] at h
  obtain ⟨-, _, -, _, -, h⟩ := h  -- likewise: the guard, `nextAnon`, `chainPred`
  cases h
  simp only [List.all_cons, projLit_plain, List.all_nil, Bool.and_self]

def PlainGen (g : Gen) : Prop := ∀ rs st', g = (.ok rs, st') → rs.all plainRule = true

theorem plainGen_genOf {st : DomState} {x : Except String (List Stm × DomState)}
    (h : ∀ rs st', x = .ok (rs, st') → rs.all plainRule = true) : PlainGen (genOf st x) := by
  unfold genOf
  split
  · rintro _ _ ⟨⟩; exact h _ _ rfl
  · rintro _ _ ⟨⟩

theorem domainForSyms_plain {rec : DomState → Pred → Gen} (hrec : ∀ st p, PlainGen (rec st p)) (ts : List Term)
    (st : DomState) : PlainGen (domainForSyms rec ts st) := by
  -- the branches of `domainForSyms` in order: `[]`, `symPredE` fails, the symbol is not a domain predicate (it is
  -- skipped), `rec` fails, the tail fails, both succeed
  fun_induction domainForSyms rec ts st
  case case1 => rintro _ _ ⟨⟩; rfl
  case case3 ih => exact ih
  case case6 h1 _ _ h2 ih =>
    rintro _ _ ⟨⟩
    rw [List.all_append, hrec _ _ _ _ h1, ih _ _ h2]; rfl
  case case2 | case4 | case5 => rintro _ _ ⟨⟩

theorem domainForConds_plain {rec : DomState → Pred → Gen} (hrec : ∀ st p, PlainGen (rec st p)) (cs : List BLit)
    (st : DomState) : PlainGen (domainForConds rec cs st) := by
  -- the branches of `domainForConds` in order: `[]`, the symbols of the first literal fail, the tail fails, both succeed
  fun_induction domainForConds rec cs st
  case case1 => rintro _ _ ⟨⟩; rfl
  case case4 h1 _ _ h2 ih =>
    rintro _ _ ⟨⟩
    rw [List.all_append, domainForSyms_plain hrec _ _ _ _ h1, ih _ _ h2]; rfl
  case case2 | case3 => rintro _ _ ⟨⟩

theorem domainForRules_plain {rec : DomState → Pred → Gen} (hrec : ∀ st p, PlainGen (rec st p)) (pred : Pred)
    (drs : List DRule) (st : DomState) : PlainGen (domainForRules rec pred drs st) := by
  -- the branches of `domainForRules` in order: `[]`, `pred` has no domain predicate, the conditions of the first rule
  -- fail, the tail fails, both succeed (their rules around the domain rule itself), the head is not a `fn`
  fun_induction domainForRules rec pred drs st
  case case1 => rintro _ _ ⟨⟩; rfl
  case case5 h1 _ _ _ h2 ih =>
    rintro _ _ ⟨⟩
    rw [List.all_append, List.all_append, domainForConds_plain hrec _ _ _ _ h1, ih _ _ h2]; rfl
  case case2 | case3 | case4 | case6 => rintro _ _ ⟨⟩

theorem createDomainFuel_plain (fuel : Nat) (st : DomState) (p : Pred) : PlainGen (createDomainFuel fuel st p) := by
  induction fuel using Nat.strongRecOn generalizing st p with | _ fuel ih =>
  -- the branches of `createDomainFuel` in order: out of fuel, `p` created before (nothing to add), `p` has no domain,
  -- `p` is static (nothing to add), no domain rules are recorded for `p`, the rules `domainForRules` gives
  fun_cases createDomainFuel fuel st p
  case case2 | case4 => rintro _ _ ⟨⟩; rfl
  case case6 => exact domainForRules_plain (ih _ (Nat.lt_succ_self _)) _ _ _
  case case1 | case3 | case5 => rintro _ _ ⟨⟩

theorem runReq_plain (st : DomState) (r : Req) : PlainGen (runReq st r) := by
  cases r with
  | domain p => exact createDomainFuel_plain _ st p
  | next ap pos => exact plainGen_genOf fun _ _ => createNext_plain
  | chain ap pos m => exact plainGen_genOf fun _ _ => createChain_plain
  | addRule p rules =>
    simp only [runReq]
    split
    · rintro _ _ ⟨⟩; rfl
    · rintro _ _ ⟨⟩

end NgoVerif.Proofs.C20heads
