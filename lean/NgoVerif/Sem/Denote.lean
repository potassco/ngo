import NgoVerif.SyntaxInduction
/-!
# Here-and-there satisfaction of terms, literals and bodies of the typed AST

`Env` assigns ground terms (`Sym`) to variables; an interpretation is a set of ground atoms; `(H, T)` is a
here-and-there pair.  The semantics is parametric (`Params`) in
* `rel`       : the meaning of the six comparison operators on ground terms (clingo's total order is one choice; nothing
                here assumes anything of `rel`),
* `un`, `bin` : unary and binary arithmetic on ground terms (`none` = undefined),
* `aggRel`    : when an aggregate literal holds, as a function of its sign, guards, function and of the *sets of tuples*
                (`bTuples`) contributed at `H` and at `T` (Ferraris / Abstract-Gringo reading: both are consulted),
* `oldAggRel` : the same for `lg { l : c̄ ; … } rg`, from the sets of elements (by index: `cCount`) that have an instance
                holding at `H` and at `T`.
Every function also takes `G`, the set of global variables of the statement, as a predicate on names: a local variable
of an aggregate element or conditional literal is quantified inside it, over the environments that `Agree` on `G`.
-/
namespace NgoVerif.Sem

abbrev Env := String → Sym

structure GAtom where
  name : String
  args : List Sym

abbrev Interp := GAtom → Prop

structure Params where
  rel : CmpOp → Sym → Sym → Prop
  un : UnOp → Sym → Option Sym
  bin : BinOp → Sym → Sym → Option Sym
  aggRel : Sign → Option (CmpOp × Option Sym) → AggFun → Option (CmpOp × Option Sym) →
    (List Sym → Prop) → (List Sym → Prop) → Prop
  oldAggRel : Sign → Option (CmpOp × Option Sym) → Option (CmpOp × Option Sym) →
    (Nat → Prop) → (Nat → Prop) → Prop

variable (P : Params)

mutual
/-- ground value of a term; intervals and pools have no single value (`none`) -/
def evalTerm (e : Env) : Term → Option Sym
  | .var n => some (e n)
  | .sym s => some s
  | .un op a => (evalTerm e a).bind (P.un op)
  | .bin op l r =>
    match evalTerm e l, evalTerm e r with
    | some x, some y => P.bin op x y
    | _, _ => none
  | .ival _ _ => none
  | .fn name args ext => if ext then none else (evalTerms e args).map fun as => Sym.fn name as true
  | .pool _ => none
def evalTerms (e : Env) : List Term → Option (List Sym)
  | [] => some []
  | t :: ts =>
    match evalTerm e t, evalTerms e ts with
    | some x, some xs => some (x :: xs)
    | _, _ => none
end

def groundAtom (e : Env) : Term → Option GAtom
  | .fn name args false => (evalTerms P e args).map fun as => ⟨name, as⟩
  | _ => none

def chainHolds (e : Env) : Term → List Guard → Prop
  | _, [] => True
  | t, g :: gs =>
    (∃ x y, evalTerm P e t = some x ∧ evalTerm P e g.term = some y ∧ P.rel g.op x y) ∧ chainHolds e g.term gs

def guardVal (e : Env) : Option Guard → Option (CmpOp × Option Sym)
  | none => none
  | some g => some (g.op, evalTerm P e g.term)

def Agree (G : String → Prop) (e e' : Env) : Prop := ∀ v, G v → e' v = e v

mutual
def litSat (G : String → Prop) (e : Env) (H T : Interp) : Sign × Atom → Prop
  | (s, a) => atomSat G e H T s a
def atomSat (G : String → Prop) (e : Env) (H T : Interp) (s : Sign) : Atom → Prop
  | .sym t =>
    match s with
    | .pos => ∃ a, groundAtom P e t = some a ∧ H a
    | .neg => ∃ a, groundAtom P e t = some a ∧ ¬ T a
    | .dneg => ∃ a, groundAtom P e t = some a ∧ T a
  | .cmp t gs =>
    match s with
    | .pos => chainHolds P e t gs
    | .neg => ¬ chainHolds P e t gs
    | .dneg => chainHolds P e t gs
  | .bool b =>
    match s with
    | .pos => b = true
    | .neg => b = false
    | .dneg => b = true
  | .bagg _ _ lg f elems rg =>
    P.aggRel s (guardVal P e lg) f (guardVal P e rg) (bTuples G e H H elems) (bTuples G e T T elems)
  | .agg lg elems rg =>
    P.oldAggRel s (guardVal P e lg) (guardVal P e rg) (cCount G e H H elems) (cCount G e T T elems)
  | .theory _ => False
def litsSat (G : String → Prop) (e : Env) (H T : Interp) : List (Sign × Atom) → Prop
  | [] => True
  | l :: ls => litSat G e H T l ∧ litsSat G e H T ls
def bTuples (G : String → Prop) (e : Env) (H T : Interp) : List (List Term × List (Sign × Atom)) → List Sym → Prop
  | [], _ => False
  | (ts, c) :: es, tup =>
    (∃ e', Agree G e e' ∧ evalTerms P e' ts = some tup ∧ litsSat G e' H T c) ∨ bTuples G e H T es tup
def cCount (G : String → Prop) (e : Env) (H T : Interp) : List ((Sign × Atom) × List (Sign × Atom)) → Nat → Prop
  | [], _ => False
  | (l, c) :: es, k =>
    (k = es.length ∧ ∃ e', Agree G e e' ∧ litSat G e' H T l ∧ litsSat G e' H T c) ∨ cCount G e H T es k
end

/-- a conditional literal `l : c̄` in a body: for every binding of its local variables, at both worlds -/
def condLitSat (G : String → Prop) (e : Env) (H T : Interp) (c : CondLit) : Prop :=
  ∀ e', Agree G e e' →
    (litsSat P G e' H T c.2 → litSat P G e' H T c.1) ∧ (litsSat P G e' T T c.2 → litSat P G e' T T c.1)

def blitSat (G : String → Prop) (e : Env) (H T : Interp) : BLit → Prop
  | .lit l => litSat P G e H T l
  | .clit c => condLitSat P G e H T c

def bodySat (G : String → Prop) (e : Env) (H T : Interp) (b : List BLit) : Prop := ∀ l ∈ b, blitSat P G e H T l

theorem condLitSat_iff (G : String → Prop) (e : Env) (H T : Interp) (c : CondLit) :
    condLitSat P G e H T c ↔ ∀ e', Agree G e e' →
      (litsSat P G e' H T c.2 → litSat P G e' H T c.1) ∧ (litsSat P G e' T T c.2 → litSat P G e' T T c.1) :=
  Iff.rfl

theorem bodySat_iff (G : String → Prop) (e : Env) (H T : Interp) (b : List BLit) :
    bodySat P G e H T b ↔ ∀ l ∈ b, blitSat P G e H T l :=
  Iff.rfl

theorem blitSat_lit (G : String → Prop) (e : Env) (H T : Interp) (l : Sign × Atom) :
    blitSat P G e H T (.lit l) ↔ litSat P G e H T l :=
  Iff.rfl

theorem blitSat_clit (G : String → Prop) (e : Env) (H T : Interp) (c : CondLit) :
    blitSat P G e H T (.clit c) ↔ condLitSat P G e H T c :=
  Iff.rfl

theorem agree_iff (G : String → Prop) (e e' : Env) : Agree G e e' ↔ ∀ v, G v → e' v = e v :=
  Iff.rfl

theorem guardVal_none (e : Env) : guardVal P e none = none := rfl

theorem groundAtom_fn (e : Env) (name : String) (args : List Term) :
    groundAtom P e (.fn name args false) = (evalTerms P e args).map fun as => ⟨name, as⟩ :=
  rfl

variable {P} in
theorem evalTerms_cons_some {e : Env} {t : Term} {ts : List Term} {vs : List Sym} (h : evalTerms P e (t :: ts) = some vs) :
    ∃ x xs, vs = x :: xs ∧ evalTerm P e t = some x ∧ evalTerms P e ts = some xs := by
  simp only [evalTerms] at h
  split at h
  · rename_i x xs hx hxs
    cases h
    exact ⟨x, xs, rfl, hx, hxs⟩
  · cases h

variable {P} in
theorem evalTerms_length {e : Env} : ∀ {ts : List Term} {as : List Sym}, evalTerms P e ts = some as → as.length = ts.length
  | [], _, h => by cases h; rfl
  | _ :: _, _, h => by
    obtain ⟨x, xs, rfl, _, hxs⟩ := evalTerms_cons_some h
    rw [List.length_cons, List.length_cons, evalTerms_length hxs]

/-- `hg` is the shape of `evalTerms`: `g` applies `f` along a list and is defined when `f` is on every member -/
theorem getElem?_of_cons_some {α β : Type} {f : α → Option β} {g : List α → Option (List β)}
    (hg : ∀ {a as bs}, g (a :: as) = some bs → ∃ x xs, bs = x :: xs ∧ f a = some x ∧ g as = some xs)
    {as : List α} {bs : List β} (h : g as = some bs) {i : Nat} {a : α} (hi : as[i]? = some a) : f a = bs[i]? := by
  induction as generalizing bs i with
  | nil => cases hi
  | cons a' as ih =>
    obtain ⟨x, xs, rfl, hx, hxs⟩ := hg h
    cases i with
    | zero =>
      cases hi
      exact hx
    | succ k => exact ih hxs hi

variable {P} in
theorem evalTerms_getElem? {e : Env} {ts : List Term} {vs : List Sym} (h : evalTerms P e ts = some vs) {i : Nat} {t : Term}
    (hi : ts[i]? = some t) : evalTerm P e t = vs[i]? :=
  getElem?_of_cons_some (evalTerms_cons_some) h hi

variable {P} in
theorem evalTerms_zip {e e' : Env} {as bs : List Term} {vs : List Sym} (ha : evalTerms P e' as = some vs)
    (hb : evalTerms P e bs = some vs) {p : Term × Term} (hp : p ∈ as.zip bs) : evalTerm P e' p.1 = evalTerm P e p.2 := by
  obtain ⟨i, hi⟩ := List.mem_iff_getElem?.mp hp
  obtain ⟨h1, h2⟩ := List.getElem?_zip_eq_some.mp hi
  rw [evalTerms_getElem? ha h1, evalTerms_getElem? hb h2]

variable {P} in
theorem evalTerms_of_zip {e e' : Env} : ∀ {as bs : List Term}, as.length = bs.length →
    (∀ p ∈ as.zip bs, evalTerm P e' p.1 = evalTerm P e p.2) → evalTerms P e' as = evalTerms P e bs
  | [], [], _, _ => by simp only [evalTerms]
  | a :: as, b :: bs, hl, h => by
    simp only [List.zip_cons_cons, List.forall_mem_cons] at h
    simp only [evalTerms, h.1, evalTerms_of_zip (Nat.succ.inj hl) h.2]

theorem evalTerms_vars (e : Env) (vs : List String) : evalTerms P e (vs.map Term.var) = some (vs.map e) := by
  induction vs with
  | nil => simp only [List.map_nil, evalTerms]
  | cons v vs ih => simp only [List.map_cons, evalTerms, evalTerm, ih]

theorem groundAtom_vars (e : Env) (name : String) (vs : List String) :
    groundAtom P e (.fn name (vs.map Term.var) false) = some ⟨name, vs.map e⟩ := by
  rw [groundAtom_fn, evalTerms_vars]; rfl

variable {P} in
theorem groundAtom_eq_some {e : Env} {t : Term} {a : GAtom} :
    groundAtom P e t = some a ↔ ∃ n args vals, t = .fn n args false ∧ evalTerms P e args = some vals ∧ a = ⟨n, vals⟩ := by
  constructor
  · intro h
    unfold groundAtom at h
    split at h
    · obtain ⟨vals, hv, rfl⟩ := Option.map_eq_some_iff.mp h
      exact ⟨_, _, vals, rfl, hv, rfl⟩
    · cases h
  · rintro ⟨n, args, vals, rfl, hv, rfl⟩
    rw [groundAtom_fn, hv]; rfl

variable {P} in
theorem groundAtom_eq_mk {e : Env} {t : Term} {n : String} {vals : List Sym} (h : groundAtom P e t = some ⟨n, vals⟩) :
    ∃ args, t = .fn n args false ∧ evalTerms P e args = some vals := by
  obtain ⟨_, args, _, rfl, hv, heq⟩ := (groundAtom_eq_some).mp h
  cases heq
  exact ⟨args, rfl, hv⟩

variable {P} {G : String → Prop} {e : Env} {H T : Interp}

theorem litSat_pos_sym {t : Term} : litSat P G e H T (.pos, .sym t) ↔ ∃ a, groundAtom P e t = some a ∧ H a := Iff.rfl
theorem litSat_neg_sym {t : Term} : litSat P G e H T (.neg, .sym t) ↔ ∃ a, groundAtom P e t = some a ∧ ¬ T a := Iff.rfl
theorem litSat_dneg_sym {t : Term} : litSat P G e H T (.dneg, .sym t) ↔ ∃ a, groundAtom P e t = some a ∧ T a := Iff.rfl

theorem litSat_pos_fn {n : String} {args : List Term} :
    litSat P G e H T (.pos, .sym (.fn n args false)) ↔ ∃ vals, evalTerms P e args = some vals ∧ H ⟨n, vals⟩ := by
  rw [litSat_pos_sym, groundAtom_fn]
  constructor
  · rintro ⟨a, ha, h⟩
    obtain ⟨vals, hv, rfl⟩ := Option.map_eq_some_iff.mp ha
    exact ⟨vals, hv, h⟩
  · rintro ⟨vals, hv, h⟩; exact ⟨_, by rw [hv]; rfl, h⟩

/-- `litSat_pos_fn` on `blitSat`.  Both sides unfold to a term without `G` and `T`, so against a member `hb l hl` of a
`bodySat` or a goal about `blitSat` the lemma on `litSat` leaves the two undetermined; this one finds them by syntax. -/
theorem blitSat_pos_fn {n : String} {args : List Term} : blitSat P G e H T (.lit (.pos, .sym (.fn n args false))) ↔
    ∃ vals, evalTerms P e args = some vals ∧ H ⟨n, vals⟩ :=
  litSat_pos_fn (G := G) (T := T)

theorem litSat_pos_cmp {t : Term} {gs : List Guard} : litSat P G e H T (.pos, .cmp t gs) ↔ chainHolds P e t gs := Iff.rfl
theorem litSat_neg_cmp {t : Term} {gs : List Guard} : litSat P G e H T (.neg, .cmp t gs) ↔ ¬ chainHolds P e t gs := Iff.rfl
theorem litSat_dneg_cmp {t : Term} {gs : List Guard} : litSat P G e H T (.dneg, .cmp t gs) ↔ chainHolds P e t gs := Iff.rfl

theorem litsSat_iff {c : List (Sign × Atom)} : litsSat P G e H T c ↔ ∀ l ∈ c, litSat P G e H T l := by
  induction c with
  | nil => simp only [litsSat, List.not_mem_nil, false_imp_iff, implies_true]
  | cons x xs ih => simp only [litsSat, ih, List.forall_mem_cons]

theorem bodySat_nil : bodySat P G e H T [] := fun _ h => nomatch h

theorem bodySat_cons {l : BLit} {b : List BLit} : bodySat P G e H T (l :: b) ↔ blitSat P G e H T l ∧ bodySat P G e H T b :=
  List.forall_mem_cons

theorem bodySat_singleton {l : BLit} : bodySat P G e H T [l] ↔ blitSat P G e H T l :=
  List.forall_mem_singleton

theorem bodySat_append {b b' : List BLit} : bodySat P G e H T (b ++ b') ↔ bodySat P G e H T b ∧ bodySat P G e H T b' :=
  List.forall_mem_append

theorem bodySat_map_lit {c : List (Sign × Atom)} : bodySat P G e H T (c.map BLit.lit) ↔ litsSat P G e H T c := by
  simp only [bodySat_iff, List.forall_mem_map, blitSat_lit, litsSat_iff]

theorem litsSat_cons {l : Sign × Atom} {ls : List (Sign × Atom)} :
    litsSat P G e H T (l :: ls) ↔ litSat P G e H T l ∧ litsSat P G e H T ls := by
  simp only [litsSat]

theorem litsSat_append {a b : List (Sign × Atom)} :
    litsSat P G e H T (a ++ b) ↔ litsSat P G e H T a ∧ litsSat P G e H T b := by
  simp only [litsSat_iff, List.forall_mem_append]

theorem litsSat_same {c c' : List (Sign × Atom)} (h : ∀ x, x ∈ c ↔ x ∈ c') :
    litsSat P G e H T c ↔ litsSat P G e H T c' := by
  simp only [litsSat_iff, h]

theorem bTuples_cons {x : BAggElem} {es : List BAggElem} {tup : List Sym} :
    bTuples P G e H T (x :: es) tup ↔
      (∃ e', Agree G e e' ∧ evalTerms P e' x.1 = some tup ∧ litsSat P G e' H T x.2) ∨ bTuples P G e H T es tup := by
  simp only [bTuples]

theorem bTuples_append {es es' : List BAggElem} {tup : List Sym} :
    bTuples P G e H T (es ++ es') tup ↔ bTuples P G e H T es tup ∨ bTuples P G e H T es' tup := by
  induction es with
  | nil => simp only [List.nil_append, bTuples, false_or]
  | cons x xs ih => rw [List.cons_append, bTuples_cons, bTuples_cons, ih, or_assoc]

theorem bTuples_flatMap (f : BAggElem → List BAggElem) {es : List BAggElem}
    (h : ∀ x ∈ es, ∀ tup, bTuples P G e H T (f x) tup ↔ bTuples P G e H T [x] tup) (tup : List Sym) :
    bTuples P G e H T (es.flatMap f) tup ↔ bTuples P G e H T es tup := by
  induction es with
  | nil => exact Iff.rfl
  | cons x xs ih =>
    rw [List.flatMap_cons, bTuples_append, h x List.mem_cons_self, ih fun y hy => h y (List.mem_cons_of_mem _ hy),
      ← bTuples_append, List.singleton_append]

section
variable {G' : String → Prop} {e' : Env} {H' T' : Interp} {lg rg lg' rg' : Option Guard}

/-- `l c` is explicit here and in `litSat_bagg_congr`: satisfaction of a body aggregate unfolds to `P.aggRel …`, in which
the position does not occur, so unification with a goal would leave it unassigned -/
theorem atomSat_bagg_congr (s : Sign) (l c : Nat) (f : AggFun) {es es' : List BAggElem}
    (hl : guardVal P e lg = guardVal P e' lg') (hr : guardVal P e rg = guardVal P e' rg')
    (hH : ∀ tup, bTuples P G e H H es tup ↔ bTuples P G' e' H' H' es' tup)
    (hT : ∀ tup, bTuples P G e T T es tup ↔ bTuples P G' e' T' T' es' tup) :
    atomSat P G e H T s (.bagg l c lg f es rg) ↔ atomSat P G' e' H' T' s (.bagg l c lg' f es' rg') := by
  simp only [atomSat, hl, hr, funext fun tup => propext (hH tup), funext fun tup => propext (hT tup)]

theorem atomSat_agg_congr (s : Sign) {es es' : List CondLit}
    (hl : guardVal P e lg = guardVal P e' lg') (hr : guardVal P e rg = guardVal P e' rg')
    (hH : ∀ k, cCount P G e H H es k ↔ cCount P G' e' H' H' es' k)
    (hT : ∀ k, cCount P G e T T es k ↔ cCount P G' e' T' T' es' k) :
    atomSat P G e H T s (.agg lg es rg) ↔ atomSat P G' e' H' T' s (.agg lg' es' rg') := by
  simp only [atomSat, hl, hr, funext fun k => propext (hH k), funext fun k => propext (hT k)]

end

theorem litSat_bagg_congr (s : Sign) (l c : Nat) (lg rg : Option Guard) (f : AggFun) {es es' : List BAggElem}
    (h : ∀ W tup, bTuples P G e W W es' tup ↔ bTuples P G e W W es tup) :
    litSat P G e H T (s, .bagg l c lg f es' rg) ↔ litSat P G e H T (s, .bagg l c lg f es rg) :=
  atomSat_bagg_congr s l c f rfl rfl (h H) (h T)

theorem bodySat_flatMap (f : BLit → List BLit) {b : List BLit}
    (h : ∀ x ∈ b, (bodySat P G e H T (f x) ↔ blitSat P G e H T x)) :
    bodySat P G e H T (b.flatMap f) ↔ bodySat P G e H T b := by
  simp only [bodySat_iff, List.mem_flatMap] at h ⊢
  exact ⟨fun hs x hx => (h x hx).mp fun y hy => hs y ⟨x, hx, hy⟩,
    fun hs y ⟨x, hx, hy⟩ => (h x hx).mpr (hs x hx) y hy⟩

theorem condLitSat_congr_cond (l : Sign × Atom) {c c' : List (Sign × Atom)}
    (h : ∀ e' W W', litsSat P G e' W W' c' ↔ litsSat P G e' W W' c) :
    condLitSat P G e H T (l, c') ↔ condLitSat P G e H T (l, c) := by
  simp only [condLitSat_iff, h]

end NgoVerif.Sem

namespace List

theorem filterMap_eq_flatMap {α β} (f : α → Option β) (l : List α) :
    l.filterMap f = l.flatMap fun x => (f x).toList := by
  induction l with
  | nil => rfl
  | cons x xs ih => rw [List.filterMap_cons, List.flatMap_cons, ← ih]; cases f x <;> rfl

theorem filter_eq_flatMap {α} (p : α → Bool) (l : List α) :
    l.filter p = l.flatMap fun x => if p x then [x] else [] := by
  induction l with
  | nil => rfl
  | cons x xs ih => rw [List.filter_cons, List.flatMap_cons, ← ih]; cases p x <;> rfl

end List
