import NgoVerif.Sem.Denote
/-!
# Independence and persistence of body satisfaction

A body that mentions no predicate of `n : Sig` (a set of signatures name/arity) means the same at interpretations that
differ only on atoms of those predicates.  Satisfaction at `(H,T)` with `H ⊆ T` implies satisfaction at `(T,T)`, given
that the aggregate semantics does the same (`AggPersistent`, an assumption on `Params`).
-/
namespace NgoVerif.Sem
variable {P : Params}

abbrev Sig := String → Nat → Bool

def nameSig (n : String) : Sig := fun m _ => m == n
def predSig (n : String) (k : Nat) : Sig := fun m j => m == n && j == k

def named (n : Sig) : GAtom → Prop := fun a => n a.name a.args.length = true

def AgreeOffName (n : Sig) (I J : Interp) : Prop := ∀ a, ¬ named n a → (I a ↔ J a)

mutual
def atomAvoids (n : Sig) : Atom → Bool
  | .sym (.fn name args _) => !n name args.length
  | .sym _ => true
  | .cmp _ _ => true
  | .bool _ => true
  | .theory _ => true
  | .bagg _ _ _ _ es _ => bElemsAvoid n es
  | .agg _ es _ => cElemsAvoid n es
def litsAvoid (n : Sig) : List (Sign × Atom) → Bool
  | [] => true
  | (_, a) :: ls => atomAvoids n a && litsAvoid n ls
def bElemsAvoid (n : Sig) : List (List Term × List (Sign × Atom)) → Bool
  | [] => true
  | (_, c) :: es => litsAvoid n c && bElemsAvoid n es
def cElemsAvoid (n : Sig) : List ((Sign × Atom) × List (Sign × Atom)) → Bool
  | [] => true
  | ((_, a), c) :: es => atomAvoids n a && litsAvoid n c && cElemsAvoid n es
end

def condLitAvoids (n : Sig) (c : CondLit) : Bool := atomAvoids n c.1.2 && litsAvoid n c.2

theorem cElemsAvoid_eq_all (n : Sig) : ∀ es : List CondLit, cElemsAvoid n es = es.all (condLitAvoids n)
  | [] => rfl
  | ((s, a), c) :: es => by rw [cElemsAvoid, List.all_cons, condLitAvoids, cElemsAvoid_eq_all n es]

def blitAvoids (n : Sig) : BLit → Bool
  | .lit (_, a) => atomAvoids n a
  | .clit ((_, a), c) => atomAvoids n a && litsAvoid n c

def bodyAvoids (n : Sig) (b : List BLit) : Bool := b.all (blitAvoids n)

theorem not_named_of_avoids {n : Sig} {e : Env} {t : Term} {a : GAtom} (hav : atomAvoids n (.sym t) = true)
    (ha : groundAtom P e t = some a) : ¬ named n a := by
  obtain ⟨name, args, vals, rfl, hv, rfl⟩ := (groundAtom_eq_some).mp ha
  simp only [atomAvoids, Bool.not_eq_true'] at hav
  simp only [named, evalTerms_length hv, hav]
  exact Bool.false_ne_true

/-- the hypothesis has the shape to which `HT.SplitData.A` unfolds when `aux k = ⟨n, k⟩` -/
theorem named_nameSig {n : String} {a : GAtom} (h : ∃ k, a = ⟨n, k⟩) : named (nameSig n) a := by
  obtain ⟨k, rfl⟩ := h
  exact beq_self_eq_true _

theorem satFamily_indep {n : Sig} {G : String → Prop} :
    (∀ (a : Atom), atomAvoids n a = true → ∀ (s : Sign) (e : Env) (H T H' T' : Interp),
      AgreeOffName n H H' → AgreeOffName n T T' → (atomSat P G e H T s a ↔ atomSat P G e H' T' s a)) ∧
    (∀ (l : Lit), atomAvoids n l.2 = true → ∀ (e : Env) (H T H' T' : Interp),
      AgreeOffName n H H' → AgreeOffName n T T' → (litSat P G e H T l ↔ litSat P G e H' T' l)) ∧
    (∀ (ls : List Lit), litsAvoid n ls = true → ∀ (e : Env) (H T H' T' : Interp),
      AgreeOffName n H H' → AgreeOffName n T T' → (litsSat P G e H T ls ↔ litsSat P G e H' T' ls)) ∧
    (∀ (es : List BAggElem), bElemsAvoid n es = true → ∀ (e : Env) (H T H' T' : Interp),
      AgreeOffName n H H' → AgreeOffName n T T' → ∀ tup, (bTuples P G e H T es tup ↔ bTuples P G e H' T' es tup)) ∧
    ∀ (es : List CondLit), cElemsAvoid n es = true → ∀ (e : Env) (H T H' T' : Interp),
      AgreeOffName n H H' → AgreeOffName n T T' → ∀ k, (cCount P G e H T es k ↔ cCount P G e H' T' es k) := by
  apply atom_induct
  case sym =>
    intro t hav s e H T H' T' aH aT
    cases s
    · exact exists_congr fun a => and_congr_right fun ha => aH a (not_named_of_avoids hav ha)
    · exact exists_congr fun a => and_congr_right fun ha => not_congr (aT a (not_named_of_avoids hav ha))
    · exact exists_congr fun a => and_congr_right fun ha => aT a (not_named_of_avoids hav ha)
  case cmp => intros; rfl
  case bool => intros; rfl
  case theory => intros; rfl
  case bagg =>
    intro ln cl lg f es rg ih hav s e H T H' T' aH aT
    rw [atomAvoids] at hav
    exact atomSat_bagg_congr s ln cl f rfl rfl (ih hav e H H H' H' aH aH) (ih hav e T T T' T' aT aT)
  case agg =>
    intro lg es rg ih hav s e H T H' T' aH aT
    rw [atomAvoids] at hav
    exact atomSat_agg_congr s rfl rfl (ih hav e H H H' H' aH aH) (ih hav e T T T' T' aT aT)
  case lit => intro s a ih hav; exact ih hav s
  case lits_nil => intros; rfl
  case lits_cons =>
    intro s a ls ihl ih hav e H T H' T' aH aT
    rw [litsAvoid, Bool.and_eq_true] at hav
    simp only [litsSat]
    exact and_congr (ihl hav.1 e H T H' T' aH aT) (ih hav.2 e H T H' T' aH aT)
  case belems_nil => intros; rfl
  case belems_cons =>
    intro ts c es ihc ih hav e H T H' T' aH aT tup
    rw [bElemsAvoid, Bool.and_eq_true] at hav
    simp only [bTuples]
    exact or_congr (exists_congr fun e' => and_congr_right fun _ => and_congr_right fun _ =>
      ihc hav.1 e' H T H' T' aH aT) (ih hav.2 e H T H' T' aH aT tup)
  case celems_nil => intros; rfl
  case celems_cons =>
    intro s a c es ihl ihc ih hav e H T H' T' aH aT k
    simp only [cElemsAvoid, Bool.and_eq_true] at hav
    simp only [cCount]
    exact or_congr (and_congr_right fun _ => exists_congr fun e' => and_congr_right fun _ =>
      and_congr (ihl hav.1.1 e' H T H' T' aH aT) (ihc hav.1.2 e' H T H' T' aH aT)) (ih hav.2 e H T H' T' aH aT k)

theorem litSat_indep {n : Sig} {G : String → Prop} {l : Sign × Atom} (hav : atomAvoids n l.2 = true) {e : Env}
    {H T H' T' : Interp} (aH : AgreeOffName n H H') (aT : AgreeOffName n T T') :
    litSat P G e H T l ↔ litSat P G e H' T' l :=
  satFamily_indep.2.1 l hav e H T H' T' aH aT

theorem litsSat_indep {n : Sig} {G : String → Prop} {ls : List (Sign × Atom)} (hav : litsAvoid n ls = true) {e : Env}
    {H T H' T' : Interp} (aH : AgreeOffName n H H') (aT : AgreeOffName n T T') :
    litsSat P G e H T ls ↔ litsSat P G e H' T' ls :=
  satFamily_indep.2.2.1 ls hav e H T H' T' aH aT

theorem condLit_indep {n : Sig} {G : String → Prop} {c : CondLit} (hav : condLitAvoids n c = true) {e : Env}
    {H T H' T' : Interp} (aH : AgreeOffName n H H') (aT : AgreeOffName n T T') :
    (litSat P G e H T c.1 ↔ litSat P G e H' T' c.1) ∧ (litsSat P G e H T c.2 ↔ litsSat P G e H' T' c.2) := by
  simp only [condLitAvoids, Bool.and_eq_true] at hav
  exact ⟨litSat_indep hav.1 aH aT, litsSat_indep hav.2 aH aT⟩

theorem blitSat_indep {n : Sig} {G : String → Prop} {b : BLit} (hav : blitAvoids n b = true) {e : Env}
    {H T H' T' : Interp} (aH : AgreeOffName n H H') (aT : AgreeOffName n T T') :
    blitSat P G e H T b ↔ blitSat P G e H' T' b := by
  cases b with
  | lit l => exact litSat_indep hav aH aT
  | clit c =>
    refine forall₂_congr fun e' _ => ?_
    have hel := @condLit_indep P n G c (show condLitAvoids n c = true from hav) e'
    rw [(hel aH aT).1, (hel aH aT).2, (hel aT aT).1, (hel aT aT).2]

theorem bodySat_indep {n : Sig} {G : String → Prop} {b : List BLit} (hav : bodyAvoids n b = true) {e : Env}
    {H T H' T' : Interp} (aH : AgreeOffName n H H') (aT : AgreeOffName n T T') :
    bodySat P G e H T b ↔ bodySat P G e H' T' b := by
  simp only [bodyAvoids, List.all_eq_true] at hav
  exact forall₂_congr fun l hl => blitSat_indep (hav l hl) aH aT

variable (P) in
structure AggPersistent : Prop where
  agg : ∀ s lg f rg X Y, P.aggRel s lg f rg X Y → P.aggRel s lg f rg Y Y
  old : ∀ s lg rg X Y, P.oldAggRel s lg rg X Y → P.oldAggRel s lg rg Y Y

/-- only a positive atom looks at `H`; for aggregates this is the assumption -/
theorem litSat_pers (hp : AggPersistent P) {G : String → Prop} {e : Env} {H T : Interp} (hs : ∀ a, H a → T a) :
    ∀ {l : Sign × Atom}, litSat P G e H T l → litSat P G e T T l
  | (.pos, .sym _) => fun ⟨a, ha, h⟩ => ⟨a, ha, hs a h⟩
  | (.neg, .sym _) | (.dneg, .sym _) | (_, .cmp ..) | (_, .bool _) | (_, .theory _) => id
  | (_, .bagg ..) => hp.agg _ _ _ _ _ _
  | (_, .agg ..) => hp.old _ _ _ _ _

theorem bodySat_pers (hp : AggPersistent P) {G : String → Prop} {e : Env} {H T : Interp} (hs : ∀ a, H a → T a)
    {b : List BLit} (h : bodySat P G e H T b) : bodySat P G e T T b := fun l hl =>
  match l, h l hl with
  | .lit _, h => litSat_pers hp hs h
  | .clit _, h => fun e' ha => ⟨(h e' ha).2, (h e' ha).2⟩

end NgoVerif.Sem
