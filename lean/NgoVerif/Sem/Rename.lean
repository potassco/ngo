import NgoVerif.Sem.Program
/-!
# Renaming: satisfaction of a renamed body under `e` is satisfaction of the body under `e ∘ σ`

For an involution `σ` of the variables (e.g. the swap of two) the renamed literal, element, conditional literal or body
holds at `(G, e)` iff the original holds at `(G ∘ σ, e ∘ σ)` - local variables included: the witnesses of the local
quantifiers are transported along `σ`, in both directions.  This is what makes "the rest of the rule is symmetric in X
and Y" usable: a symmetric body cannot tell `e` from `e ∘ swap`.  What is said of variables alone holds for any `σ`.
-/
namespace NgoVerif.Sem
variable {P : Params}

mutual
def renameTerm (σ : String → String) : Term → Term
  | .var n => .var (σ n)
  | .sym s => .sym s
  | .un op a => .un op (renameTerm σ a)
  | .bin op l r => .bin op (renameTerm σ l) (renameTerm σ r)
  | .ival l r => .ival (renameTerm σ l) (renameTerm σ r)
  | .fn name args ext => .fn name (renameTerms σ args) ext
  | .pool args => .pool (renameTerms σ args)
def renameTerms (σ : String → String) : List Term → List Term
  | [] => []
  | t :: ts => renameTerm σ t :: renameTerms σ ts
end

def renameGuard (σ : String → String) (g : Guard) : Guard := ⟨g.op, renameTerm σ g.term⟩
def renameGuards (σ : String → String) : List Guard → List Guard
  | [] => []
  | g :: gs => renameGuard σ g :: renameGuards σ gs
def renameOptGuard (σ : String → String) : Option Guard → Option Guard
  | none => none
  | some g => some (renameGuard σ g)

mutual
def renameAtom (σ : String → String) : Atom → Atom
  | .sym t => .sym (renameTerm σ t)
  | .cmp t gs => .cmp (renameTerm σ t) (renameGuards σ gs)
  | .bool b => .bool b
  | .bagg l c lg f es rg => .bagg l c (renameOptGuard σ lg) f (renameBElems σ es) (renameOptGuard σ rg)
  | .agg lg es rg => .agg (renameOptGuard σ lg) (renameCElems σ es) (renameOptGuard σ rg)
  | .theory t => .theory t
def renameLits (σ : String → String) : List (Sign × Atom) → List (Sign × Atom)
  | [] => []
  | (s, a) :: ls => (s, renameAtom σ a) :: renameLits σ ls
def renameBElems (σ : String → String) : List (List Term × List (Sign × Atom)) → List (List Term × List (Sign × Atom))
  | [] => []
  | (ts, c) :: es => (renameTerms σ ts, renameLits σ c) :: renameBElems σ es
def renameCElems (σ : String → String) :
    List ((Sign × Atom) × List (Sign × Atom)) → List ((Sign × Atom) × List (Sign × Atom))
  | [] => []
  | ((s, a), c) :: es => ((s, renameAtom σ a), renameLits σ c) :: renameCElems σ es
end

def renameLit (σ : String → String) (l : Sign × Atom) : Sign × Atom := (l.1, renameAtom σ l.2)

def renameBLit (σ : String → String) : BLit → BLit
  | .lit l => .lit (renameLit σ l)
  | .clit c => .clit (renameLit σ c.1, renameLits σ c.2)

def renameBody (σ : String → String) (b : List BLit) : List BLit := b.map (renameBLit σ)

theorem vars_renameTerm_renameTerms (σ : String → String) :
    (∀ t : Term, (renameTerm σ t).vars = t.vars.map σ) ∧
    ∀ ts : List Term, (renameTerms σ ts).flatMap Term.vars = (ts.flatMap Term.vars).map σ := by
  apply term_induct
  case var => intro n; simp only [renameTerm, Term.vars, List.map_cons, List.map_nil]
  case sym => intro s; simp only [renameTerm, Term.vars, List.map_nil]
  case un => intro op a ih; simp only [renameTerm, Term.vars, ih]
  case bin => intro op l r ihl ihr; simp only [renameTerm, Term.vars, ihl, ihr, List.map_append]
  case ival => intro l r ihl ihr; simp only [renameTerm, Term.vars, ihl, ihr, List.map_append]
  case fn => intro name args ext ih; simp only [renameTerm, Term.vars, ih]
  case pool => intro args ih; simp only [renameTerm, Term.vars, ih]
  case nil => rfl
  case cons => intro t ts iht ih; simp only [renameTerms, List.flatMap_cons, iht, ih, List.map_append]

theorem vars_renameTerm (σ : String → String) : ∀ t : Term, (renameTerm σ t).vars = t.vars.map σ :=
  (vars_renameTerm_renameTerms σ).1

theorem vars_renameTerms (σ : String → String) :
    ∀ ts : List Term, (renameTerms σ ts).flatMap Term.vars = (ts.flatMap Term.vars).map σ :=
  (vars_renameTerm_renameTerms σ).2

theorem vars_renameGuards (σ : String → String) :
    ∀ gs : List Guard, ((renameGuards σ gs).map (·.term)).flatMap Term.vars = ((gs.map (·.term)).flatMap Term.vars).map σ
  | [] => by simp [renameGuards]
  | g :: gs => by
    simp only [renameGuards, renameGuard, List.map_cons, List.flatMap_cons, vars_renameTerm, vars_renameGuards σ gs,
      List.map_append]

theorem vars_renameOptGuard (σ : String → String) (g : Option Guard) :
    (optGuardTerms (renameOptGuard σ g)).flatMap Term.vars = ((optGuardTerms g).flatMap Term.vars).map σ := by
  cases g with
  | none => simp [renameOptGuard, optGuardTerms]
  | some g => simp [renameOptGuard, renameGuard, optGuardTerms, vars_renameTerm]

theorem blitGlobals_rename (σ : String → String) (b : BLit) :
    blitGlobals (renameBLit σ b) = (blitGlobals b).map σ := by
  cases b with
  | clit c => rfl
  | lit l =>
    obtain ⟨s, a⟩ := l
    cases a with
    | sym t =>
      simp only [renameBLit, renameLit, renameAtom, blitGlobals, litVars, litTerms, Atom.terms, List.flatMap_singleton,
        vars_renameTerm]
    | cmp t gs =>
      simp only [renameBLit, renameLit, renameAtom, blitGlobals, litVars, litTerms, Atom.terms, List.flatMap_cons,
        vars_renameTerm, vars_renameGuards, List.map_append]
    | bool | theory => rfl
    | bagg | agg =>
      simp only [renameBLit, renameLit, renameAtom, blitGlobals, List.flatMap_append, vars_renameOptGuard, List.map_append]

theorem bodyGlobals_rename (σ : String → String) (b : List BLit) :
    bodyGlobals (renameBody σ b) = (bodyGlobals b).map σ := by
  simp only [bodyGlobals, renameBody, List.flatMap_map, blitGlobals_rename, List.map_flatMap]

theorem evalTerm_evalTerms_rename (σ : String → String) (e : Env) :
    (∀ t : Term, evalTerm P e (renameTerm σ t) = evalTerm P (fun v => e (σ v)) t) ∧
    ∀ ts : List Term, evalTerms P e (renameTerms σ ts) = evalTerms P (fun v => e (σ v)) ts := by
  apply term_induct
  case var => intros; rfl
  case sym => intros; rfl
  case un => intro op a ih; simp only [renameTerm, evalTerm, ih]
  case bin => intro op l r ihl ihr; simp only [renameTerm, evalTerm, ihl, ihr]
  case ival => intros; rfl
  case fn => intro name args ext ih; simp only [renameTerm, evalTerm, ih]
  case pool => intros; rfl
  case nil => rfl
  case cons => intro t ts iht ih; simp only [renameTerms, evalTerms, iht, ih]

theorem evalTerm_rename (σ : String → String) (e : Env) :
    ∀ t : Term, evalTerm P e (renameTerm σ t) = evalTerm P (fun v => e (σ v)) t :=
  (evalTerm_evalTerms_rename σ e).1

theorem evalTerms_rename (σ : String → String) (e : Env) :
    ∀ ts : List Term, evalTerms P e (renameTerms σ ts) = evalTerms P (fun v => e (σ v)) ts :=
  (evalTerm_evalTerms_rename σ e).2

theorem groundAtom_rename (σ : String → String) (e : Env) (t : Term) :
    groundAtom P e (renameTerm σ t) = groundAtom P (fun v => e (σ v)) t := by
  cases t with
  | fn name args ext => cases ext <;> simp only [renameTerm, groundAtom, evalTerms_rename]
  | _ => rfl

theorem chainHolds_rename (σ : String → String) (e : Env) :
    ∀ (t : Term) (gs : List Guard),
      chainHolds P e (renameTerm σ t) (renameGuards σ gs) ↔ chainHolds P (fun v => e (σ v)) t gs
  | t, [] => Iff.rfl
  | t, g :: gs => by
    rw [renameGuards, chainHolds, chainHolds, evalTerm_rename, renameGuard, evalTerm_rename, chainHolds_rename σ e g.term gs]

theorem guardVal_rename (σ : String → String) (e : Env) (g : Option Guard) :
    guardVal P e (renameOptGuard σ g) = guardVal P (fun v => e (σ v)) g := by
  cases g with
  | none => rfl
  | some g => rw [renameOptGuard, guardVal, guardVal, renameGuard, evalTerm_rename]

def renameG (σ : String → String) (G : String → Prop) : String → Prop := fun v => G (σ v)

theorem agree_push {σ : String → String} {G : String → Prop} {e e' : Env} (h : Agree G e e') :
    Agree (renameG σ G) (fun v => e (σ v)) (fun v => e' (σ v)) := fun v hv => h (σ v) hv

theorem agree_pull {σ : String → String} (hinv : ∀ v, σ (σ v) = v) {G : String → Prop} {e e'' : Env}
    (h : Agree (renameG σ G) (fun v => e (σ v)) e'') : Agree G e (fun v => e'' (σ v)) := by
  intro v hv
  have := h (σ v) (by simpa [renameG, hinv] using hv)
  simpa [hinv] using this

theorem comp_inv {σ : String → String} (hinv : ∀ v, σ (σ v) = v) (e'' : Env) :
    (fun v => (fun w => e'' (σ w)) (σ v)) = e'' := by
  funext v; simp [hinv]

theorem forall_env_rename {σ : String → String} (hinv : ∀ v, σ (σ v) = v) {φ : Env → Prop} :
    (∀ e : Env, φ fun v => e (σ v)) ↔ ∀ e, φ e :=
  ⟨fun h e => by rw [← comp_inv hinv e]; exact h fun v => e (σ v), fun h e => h _⟩

theorem exists_agree_rename {σ : String → String} (hinv : ∀ v, σ (σ v) = v) {G : String → Prop} {e : Env}
    {φ φ' : Env → Prop} (hφ : ∀ e1, φ e1 ↔ φ' fun v => e1 (σ v)) :
    (∃ e1, Agree G e e1 ∧ φ e1) ↔ ∃ e2, Agree (renameG σ G) (fun v => e (σ v)) e2 ∧ φ' e2 := by
  constructor
  · rintro ⟨e1, ha, h⟩; exact ⟨_, agree_push ha, (hφ e1).mp h⟩
  · rintro ⟨e2, ha, h⟩
    refine ⟨_, agree_pull hinv ha, (hφ _).mpr ?_⟩
    rw [comp_inv hinv]; exact h

theorem forall_agree_rename {σ : String → String} (hinv : ∀ v, σ (σ v) = v) {G : String → Prop} {e : Env}
    {φ φ' : Env → Prop} (hφ : ∀ e1, φ e1 ↔ φ' fun v => e1 (σ v)) :
    (∀ e1, Agree G e e1 → φ e1) ↔ ∀ e2, Agree (renameG σ G) (fun v => e (σ v)) e2 → φ' e2 := by
  constructor
  · intro h e2 ha
    have := (hφ _).mp (h _ (agree_pull hinv ha))
    rwa [comp_inv hinv] at this
  · intro h e1 ha; exact (hφ e1).mpr (h _ (agree_push ha))

theorem length_renameCElems (σ : String → String) :
    ∀ es : List ((Sign × Atom) × List (Sign × Atom)), (renameCElems σ es).length = es.length
  | [] => rfl
  | ((_, _), _) :: es => by simp only [renameCElems, List.length_cons, length_renameCElems σ es]

theorem satFamily_rename {σ : String → String} (hinv : ∀ v, σ (σ v) = v) {G : String → Prop} :
    (∀ (a : Atom) (H T : Interp) (s : Sign) (e : Env),
      atomSat P G e H T s (renameAtom σ a) ↔ atomSat P (renameG σ G) (fun v => e (σ v)) H T s a) ∧
    (∀ (l : Lit) (H T : Interp) (e : Env),
      litSat P G e H T (renameLit σ l) ↔ litSat P (renameG σ G) (fun v => e (σ v)) H T l) ∧
    (∀ (ls : List Lit) (H T : Interp) (e : Env),
      litsSat P G e H T (renameLits σ ls) ↔ litsSat P (renameG σ G) (fun v => e (σ v)) H T ls) ∧
    (∀ (es : List BAggElem) (H T : Interp) (e : Env) (tup : List Sym),
      bTuples P G e H T (renameBElems σ es) tup ↔ bTuples P (renameG σ G) (fun v => e (σ v)) H T es tup) ∧
    ∀ (es : List CondLit) (H T : Interp) (e : Env) (k : Nat),
      cCount P G e H T (renameCElems σ es) k ↔ cCount P (renameG σ G) (fun v => e (σ v)) H T es k := by
  apply atom_induct
  case sym => intro t H T s e; cases s <;> simp only [renameAtom, atomSat, groundAtom_rename]
  case cmp => intro t gs H T s e; cases s <;> simp only [renameAtom, atomSat, chainHolds_rename]
  case bool => intros; rfl
  case theory => intros; rfl
  case bagg =>
    intro ln cl lg f es rg ih H T s e
    rw [renameAtom]
    exact atomSat_bagg_congr s ln cl f (guardVal_rename σ e lg) (guardVal_rename σ e rg) (ih H H e) (ih T T e)
  case agg =>
    intro lg es rg ih H T s e
    rw [renameAtom]
    exact atomSat_agg_congr s (guardVal_rename σ e lg) (guardVal_rename σ e rg) (ih H H e) (ih T T e)
  case lit => intro s a ih H T; exact ih H T s
  case lits_nil => intros; rfl
  case lits_cons =>
    intro s a ls ihl ih H T e
    simp only [renameLits, litsSat]
    exact and_congr (ihl H T e) (ih H T e)
  case belems_nil => intros; rfl
  case belems_cons =>
    intro ts c es ihc ih H T e tup
    simp only [renameBElems, bTuples]
    exact or_congr (exists_agree_rename hinv fun e1 => by rw [evalTerms_rename, ihc H T e1]) (ih H T e tup)
  case celems_nil => intros; rfl
  case celems_cons =>
    intro s a c es ihl ihc ih H T e k
    simp only [renameCElems, cCount, length_renameCElems]
    exact or_congr (and_congr_right fun _ => exists_agree_rename hinv fun e1 =>
      and_congr (ihl H T e1) (ihc H T e1)) (ih H T e k)

theorem litSat_rename {σ : String → String} (hinv : ∀ v, σ (σ v) = v) {G : String → Prop} {H T : Interp}
    {l : Sign × Atom} {e : Env} :
    litSat P G e H T (renameLit σ l) ↔ litSat P (renameG σ G) (fun v => e (σ v)) H T l :=
  (satFamily_rename hinv).2.1 l H T e

theorem litsSat_rename {σ : String → String} (hinv : ∀ v, σ (σ v) = v) {G : String → Prop} {H T : Interp}
    {ls : List (Sign × Atom)} {e : Env} :
    litsSat P G e H T (renameLits σ ls) ↔ litsSat P (renameG σ G) (fun v => e (σ v)) H T ls :=
  (satFamily_rename hinv).2.2.1 ls H T e

variable (P) in
theorem bTuples_rename (σ : String → String) (hinv : ∀ v, σ (σ v) = v) (G : String → Prop) (H T : Interp) :
    ∀ (es : List (List Term × List (Sign × Atom))) (e : Env) (tup : List Sym),
      bTuples P G e H T (renameBElems σ es) tup ↔ bTuples P (renameG σ G) (fun v => e (σ v)) H T es tup :=
  fun es => (satFamily_rename hinv).2.2.2.1 es H T

variable (P) in
theorem cCount_rename (σ : String → String) (hinv : ∀ v, σ (σ v) = v) (G : String → Prop) (H T : Interp) :
    ∀ (es : List ((Sign × Atom) × List (Sign × Atom))) (e : Env) (k : Nat),
      cCount P G e H T (renameCElems σ es) k ↔ cCount P (renameG σ G) (fun v => e (σ v)) H T es k :=
  fun es => (satFamily_rename hinv).2.2.2.2 es H T

theorem blitSat_rename {σ : String → String} (hinv : ∀ v, σ (σ v) = v) {G : String → Prop} {H T : Interp}
    {b : BLit} {e : Env} :
    blitSat P G e H T (renameBLit σ b) ↔ blitSat P (renameG σ G) (fun v => e (σ v)) H T b := by
  cases b with
  | lit l => exact litSat_rename hinv
  | clit c =>
    refine forall_agree_rename hinv fun e1 => ?_
    have hl := fun W => @litSat_rename P σ hinv G W T c.1 e1
    have hc := fun W => @litsSat_rename P σ hinv G W T c.2 e1
    rw [hl H, hl T, hc H, hc T]

theorem bodySat_rename {σ : String → String} (hinv : ∀ v, σ (σ v) = v) {G : String → Prop} {H T : Interp}
    {b : List BLit} {e : Env} :
    bodySat P G e H T (renameBody σ b) ↔ bodySat P (renameG σ G) (fun v => e (σ v)) H T b := by
  simp only [bodySat, renameBody, List.forall_mem_map]
  exact forall₂_congr fun l _ => blitSat_rename hinv

end NgoVerif.Sem
