import NgoVerif.Sem.Rename
import NgoVerif.Sem.Head
/-!
# A rule with a variable-atom head means the same after its variables are renamed by an involution

For an involution `σ` of the variables, `aux(vs) :- B.` and `aux(σ vs) :- σ B.` have the same here-and-there models
(the instance of the renamed rule at `e` is the instance of the original at `e ∘ σ`).  This lets the auxiliary rule
`duplication` emits (over canonical variable names) stand for the copy of the literal set at each place of use.
-/
namespace NgoVerif.Sem
variable {P : Params}

def varAtomHead (name : String) (vs : List String) : Head := .lit (.pos, .sym (.fn name (vs.map Term.var) false))

theorem varAtomHead_sat {G : String → Prop} {e : Env} {H T : Interp} {name : String} {vs : List String} :
    stdHeadSat P G e H T (varAtomHead name vs) ↔ H ⟨name, vs.map e⟩ :=
  stdHeadSat_atom G T (groundAtom_vars P e name vs)

theorem varAtomHead_globals (name : String) (vs : List String) : stdHeadGlobals (varAtomHead name vs) = vs := by
  rw [varAtomHead, stdHeadGlobals, litVars_fn]
  induction vs with
  | nil => rfl
  | cons v vs ih => rw [List.map_cons, List.flatMap_cons, ih, Term.vars, List.singleton_append]

theorem auxRule_rename {σ : String → String} (hinv : ∀ v, σ (σ v) = v) {l c l' c' : Nat} {name : String} {vs : List String}
    {b : List BLit} {H T : Interp} :
    stmSat (stdParams P) H T (.rule l c (varAtomHead name vs) b) ↔
      stmSat (stdParams P) H T (.rule l' c' (varAtomHead name (vs.map σ)) (renameBody σ b)) := by
  have hG : renameG σ (fun v => v ∈ ruleGlobals (stdParams P) (varAtomHead name (vs.map σ)) (renameBody σ b)) =
      fun v => v ∈ ruleGlobals (stdParams P) (varAtomHead name vs) b := by
    funext v
    rw [renameG, stdParams_ruleGlobals, stdParams_ruleGlobals, varAtomHead_globals, varAtomHead_globals, bodyGlobals_rename,
      ← List.map_append]
    exact propext ⟨fun h => by obtain ⟨w, hw, hwv⟩ := List.mem_map.mp h; rwa [← hinv v, ← hwv, hinv],
      List.mem_map_of_mem⟩
  refine (forall_env_rename hinv).symm.trans (forall_congr' fun e => ?_)
  simp only [stdParams_headSat, stdParams_toParams, varAtomHead_sat, bodySat_rename hinv, hG, List.map_map,
    Function.comp_def]

end NgoVerif.Sem
