import NgoVerif.Sem.Program
import NgoVerif.Meta.Basic
/-!
# A typed program denotes a ground here-and-there program

`denote prg` is the set of satisfaction relations of the statements of `prg`; models and stable models of the typed
program are those of its denotation, so every theorem of the ground-level meta theory (`Meta/*`) applies to programs.
-/
namespace NgoVerif.Sem

def denote (P : PParams) (prg : Prog) : HT.Prog GAtom := fun r => ∃ s ∈ prg, r = fun H T => stmSat P H T s

variable {P : PParams} {prg : Prog}

theorem models_denote (H T : Interp) : HT.Models (denote P prg) H T ↔ Models P prg H T :=
  ⟨fun h s hs => h _ ⟨s, hs, rfl⟩, by rintro h r ⟨s, hs, rfl⟩; exact h s hs⟩

theorem stable_denote (T : Interp) : HT.Stable (denote P prg) T ↔ Stable P prg T :=
  and_congr (models_denote T T) (forall_congr' fun H => by rw [models_denote]; exact and_imp)

theorem seq_frame {s : Stm} {Q : HT.Prog GAtom} (hs : ∀ H T, stmSat P H T s ↔ HT.Models Q H T) (pre post : Prog) :
    HT.SEq (denote P (pre ++ s :: post)) (HT.Union (denote P (pre ++ post)) Q) := fun H T => by
  rw [models_denote, models_frame, HT.models_union, hs, models_denote, and_comm]

theorem seq_frame_then {s : Stm} {Q R : HT.Prog GAtom} (hs : ∀ H T, stmSat P H T s ↔ HT.Models Q H T) {pre post : Prog}
    (hR : HT.SEq (denote P (pre ++ post)) R) : HT.SEq (denote P (pre ++ s :: post)) (HT.Union R Q) :=
  (seq_frame hs pre post).trans (hR.union (.refl Q))

theorem stable_of_seq {Q : HT.Prog GAtom} (h : HT.SEq (denote P prg) Q) (T : Interp) : Stable P prg T ↔ HT.Stable Q T :=
  (stable_denote T).symm.trans (h.stable T)

end NgoVerif.Sem
