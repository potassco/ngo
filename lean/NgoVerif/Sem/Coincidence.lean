import NgoVerif.Sem.Program
/-!
# Coincidence: satisfaction depends only on what occurs

Satisfaction at `(G, e)` looks at the environment `e` only on the variables that occur, and at the set `G` of global
variables only where a local scope is opened (the elements of an aggregate, a conditional literal), to decide which
variables the local binding must leave alone.  `…_coin` says both at once.  For atoms, body literals and bodies the
hypothesis on `G` is about `atomScoped`, `blitScoped`, `bodyScoped` only; for what is met inside a scope it is about all
their variables.  `…_gcongr` (`e' = e`) is what lets a rule be moved into another rule, or split in two, although "the
global variables of the statement" change: it suffices that the variables inside its aggregates and conditions keep
their status.
-/
namespace NgoVerif.Sem
variable {P : Params}

theorem evalTerm_evalTerms_congr {e1 e2 : Env} :
    (∀ t : Term, (∀ v ∈ t.vars, e1 v = e2 v) → evalTerm P e1 t = evalTerm P e2 t) ∧
    ∀ ts : List Term, (∀ v ∈ ts.flatMap Term.vars, e1 v = e2 v) → evalTerms P e1 ts = evalTerms P e2 ts := by
  apply term_induct
  case var => intro n h; rw [Term.vars, List.forall_mem_singleton] at h; simp only [evalTerm, h]
  case sym => intros; rfl
  case un => intro op a ih h; rw [Term.vars] at h; simp only [evalTerm, ih h]
  case bin =>
    intro op l r ihl ihr h
    rw [Term.vars, List.forall_mem_append] at h
    simp only [evalTerm, ihl h.1, ihr h.2]
  case ival => intros; rfl
  case fn => intro name args ext ih h; rw [Term.vars] at h; simp only [evalTerm, ih h]
  case pool => intros; rfl
  case nil => intros; rfl
  case cons =>
    intro t ts iht ih h
    rw [List.flatMap_cons, List.forall_mem_append] at h
    simp only [evalTerms, iht h.1, ih h.2]

theorem evalTerm_congr {e1 e2 : Env} {t : Term} (h : ∀ v ∈ t.vars, e1 v = e2 v) : evalTerm P e1 t = evalTerm P e2 t :=
  evalTerm_evalTerms_congr.1 t h

theorem evalTerms_congr {e1 e2 : Env} {ts : List Term} (h : ∀ v ∈ ts.flatMap Term.vars, e1 v = e2 v) :
    evalTerms P e1 ts = evalTerms P e2 ts :=
  evalTerm_evalTerms_congr.2 ts h

theorem groundAtom_congr {e1 e2 : Env} {t : Term} (h : ∀ v ∈ t.vars, e1 v = e2 v) :
    groundAtom P e1 t = groundAtom P e2 t := by
  unfold groundAtom
  split
  · rw [Term.vars] at h; rw [evalTerms_congr h]
  · rfl

theorem chainHolds_congr {e1 e2 : Env} :
    ∀ {t : Term} {gs : List Guard}, (∀ v ∈ t.vars ++ (gs.map (·.term)).flatMap Term.vars, e1 v = e2 v) →
      (chainHolds P e1 t gs ↔ chainHolds P e2 t gs)
  | t, [], _ => Iff.rfl
  | t, g :: gs, h => by
    rw [List.map_cons, List.flatMap_cons, List.forall_mem_append] at h
    rw [chainHolds, chainHolds, evalTerm_congr h.1,
      evalTerm_congr (List.forall_mem_append.mp h.2).1, chainHolds_congr h.2]

theorem guardVal_congr {e1 e2 : Env} {g : Option Guard} (h : ∀ v ∈ (optGuardTerms g).flatMap Term.vars, e1 v = e2 v) :
    guardVal P e1 g = guardVal P e2 g := by
  cases g with
  | none => rfl
  | some g =>
    rw [optGuardTerms, List.flatMap_singleton] at h
    rw [guardVal, guardVal, evalTerm_congr h]

def patch (vs : List String) (e1' e2 : Env) : Env := fun v => if v ∈ vs then e1' v else e2 v

theorem patch_eq {vs : List String} {e1' e2 : Env} : ∀ v ∈ vs, e1' v = patch vs e1' e2 v := by
  intro v hv; simp [patch, hv]

theorem patch_eq_right {vs : List String} {e1' e2 : Env} {v : String} (h : v ∈ vs → e1' v = e2 v) :
    patch vs e1' e2 v = e2 v := by
  unfold patch
  split
  · exact h ‹_›
  · rfl

def atomScoped : Atom → List String
  | .bagg _ _ _ _ es _ => (bElemsTerms es).flatMap Term.vars
  | .agg _ es _ => (cElemsTerms es).flatMap Term.vars
  | _ => []

theorem atomScoped_sub {a : Atom} : ∀ v ∈ atomScoped a, v ∈ (a.terms).flatMap Term.vars := by
  intro v hv
  cases a with
  | bagg | agg => simp only [Atom.terms, List.flatMap_append, List.mem_append]; exact Or.inl (Or.inr hv)
  | _ => cases hv

def litsScoped : List (Sign × Atom) → List String
  | [] => []
  | (_, a) :: ls => atomScoped a ++ litsScoped ls

def blitScoped : BLit → List String
  | .lit (_, a) => atomScoped a
  | .clit c => (condLitTerms c).flatMap Term.vars

def bodyScoped (b : List BLit) : List String := b.flatMap blitScoped

theorem bodyScoped_sub {b : List BLit} : ∀ v ∈ bodyScoped b, v ∈ b.flatMap BLit.vars := by
  intro v hv
  obtain ⟨l, hl, hvl⟩ := List.mem_flatMap.mp hv
  refine List.mem_flatMap.mpr ⟨l, hl, ?_⟩
  cases l with
  | lit la =>
    obtain ⟨s, a⟩ := la
    simpa only [BLit.vars, BLit.terms, litTerms] using atomScoped_sub v hvl
  | clit c => exact hvl

/-! A local scope ranges over the environments `e1` with `Agree G e e1`, and nothing else ever consults `G`.  Seen
through a set `vs` of variables that range is the same for `(G, e)` and `(G', e')` as soon as the two agree on `vs`
(`Agree.restrict`); the coincidence lemmas use only this. -/

variable {G G' : String → Prop} {e e' : Env}

theorem Agree.restrict {e1 : Env} {vs : List String} (he : ∀ v ∈ vs, e v = e' v) (hG : ∀ v ∈ vs, G v ↔ G' v)
    (ha : Agree G e e1) : ∃ e2, Agree G' e' e2 ∧ ∀ v ∈ vs, e1 v = e2 v := by
  refine ⟨patch vs e1 e', fun v hv => ?_, patch_eq⟩
  by_cases hm : v ∈ vs
  · simp only [patch, hm, if_true]; rw [ha v ((hG v hm).mpr hv), he v hm]
  · simp only [patch, hm, if_false]

theorem exists_agree_congr {φ φ' : Env → Prop} {vs : List String} (he : ∀ v ∈ vs, e v = e' v)
    (hG : ∀ v ∈ vs, G v ↔ G' v) (hφ : ∀ e1 e2, (∀ v ∈ vs, e1 v = e2 v) → (φ e1 ↔ φ' e2)) :
    (∃ e1, Agree G e e1 ∧ φ e1) ↔ ∃ e2, Agree G' e' e2 ∧ φ' e2 := by
  constructor
  · rintro ⟨e1, ha, h⟩
    obtain ⟨e2, ha2, h12⟩ := ha.restrict he hG
    exact ⟨e2, ha2, (hφ e1 e2 h12).mp h⟩
  · rintro ⟨e2, ha, h⟩
    obtain ⟨e1, ha1, h21⟩ := ha.restrict (fun v hv => (he v hv).symm) (fun v hv => (hG v hv).symm)
    exact ⟨e1, ha1, (hφ e1 e2 (fun v hv => (h21 v hv).symm)).mpr h⟩

theorem forall_agree_congr {φ φ' : Env → Prop} {vs : List String} (he : ∀ v ∈ vs, e v = e' v)
    (hG : ∀ v ∈ vs, G v ↔ G' v) (hφ : ∀ e1 e2, (∀ v ∈ vs, e1 v = e2 v) → (φ e1 ↔ φ' e2)) :
    (∀ e1, Agree G e e1 → φ e1) ↔ ∀ e2, Agree G' e' e2 → φ' e2 := by
  constructor
  · intro h e2 ha
    obtain ⟨e1, ha1, h21⟩ := ha.restrict (fun v hv => (he v hv).symm) (fun v hv => (hG v hv).symm)
    exact (hφ e1 e2 (fun v hv => (h21 v hv).symm)).mp (h e1 ha1)
  · intro h e1 ha
    obtain ⟨e2, ha2, h12⟩ := ha.restrict he hG
    exact (hφ e1 e2 h12).mpr (h e2 ha2)

theorem satFamily_coin :
    (∀ (a : Atom) (H T : Interp) (s : Sign) (e e' : Env), (∀ v ∈ a.terms.flatMap Term.vars, e v = e' v) →
      (∀ v ∈ atomScoped a, G v ↔ G' v) → (atomSat P G e H T s a ↔ atomSat P G' e' H T s a)) ∧
    (∀ (l : Lit) (H T : Interp) (e e' : Env), (∀ v ∈ litVars l, e v = e' v) → (∀ v ∈ atomScoped l.2, G v ↔ G' v) →
      (litSat P G e H T l ↔ litSat P G' e' H T l)) ∧
    (∀ (ls : List Lit) (H T : Interp) (e e' : Env), (∀ v ∈ (litsTerms ls).flatMap Term.vars, e v = e' v) →
      (∀ v ∈ (litsTerms ls).flatMap Term.vars, G v ↔ G' v) → (litsSat P G e H T ls ↔ litsSat P G' e' H T ls)) ∧
    (∀ (es : List BAggElem) (H T : Interp) (e e' : Env), (∀ v ∈ (bElemsTerms es).flatMap Term.vars, e v = e' v) →
      (∀ v ∈ (bElemsTerms es).flatMap Term.vars, G v ↔ G' v) →
      ∀ tup, (bTuples P G e H T es tup ↔ bTuples P G' e' H T es tup)) ∧
    ∀ (es : List CondLit) (H T : Interp) (e e' : Env), (∀ v ∈ (cElemsTerms es).flatMap Term.vars, e v = e' v) →
      (∀ v ∈ (cElemsTerms es).flatMap Term.vars, G v ↔ G' v) → ∀ k, (cCount P G e H T es k ↔ cCount P G' e' H T es k) := by
  apply atom_induct
  case sym =>
    intro t H T s e e' he _
    rw [Atom.terms, List.flatMap_singleton] at he
    cases s <;> simp only [atomSat, groundAtom_congr he]
  case cmp =>
    intro t gs H T s e e' he _
    rw [Atom.terms, List.flatMap_cons] at he
    cases s <;> simp only [atomSat, chainHolds_congr he]
  case bool => intros; rfl
  case theory => intros; rfl
  case bagg =>
    intro ln cl lg f es rg ih H T s e e' he hG
    simp only [Atom.terms, List.flatMap_append, List.forall_mem_append] at he
    exact atomSat_bagg_congr s ln cl f (guardVal_congr he.1.1) (guardVal_congr he.2)
      (ih H H e e' he.1.2 hG) (ih T T e e' he.1.2 hG)
  case agg =>
    intro lg es rg ih H T s e e' he hG
    simp only [Atom.terms, List.flatMap_append, List.forall_mem_append] at he
    exact atomSat_agg_congr s (guardVal_congr he.1.1) (guardVal_congr he.2)
      (ih H H e e' he.1.2 hG) (ih T T e e' he.1.2 hG)
  case lit => intro s a ih H T; exact ih H T s
  case lits_nil => intros; rfl
  case lits_cons =>
    intro s a ls ihl ih H T e e' he hG
    simp only [litsTerms, List.flatMap_append, List.forall_mem_append] at he hG
    simp only [litsSat]
    exact and_congr (ihl H T e e' he.1 fun v hv => hG.1 v (atomScoped_sub v hv)) (ih H T e e' he.2 hG.2)
  case belems_nil => intros; rfl
  case belems_cons =>
    intro ts c es ihc ih H T e e' he hG tup
    simp only [bElemsTerms, List.flatMap_append, List.forall_mem_append] at he hG
    simp only [bTuples]
    refine or_congr (exists_agree_congr (List.forall_mem_append.mpr he.1) (List.forall_mem_append.mpr hG.1)
      fun e1 e2 h12 => ?_) (ih H T e e' he.2 hG.2 tup)
    rw [List.forall_mem_append] at h12
    rw [evalTerms_congr h12.1, ihc H T e1 e2 h12.2 hG.1.2]
  case celems_nil => intros; rfl
  case celems_cons =>
    intro s a c es ihl ihc ih H T e e' he hG k
    simp only [cElemsTerms, List.flatMap_append, List.forall_mem_append] at he hG
    simp only [cCount]
    refine or_congr (and_congr_right fun _ =>
      exists_agree_congr (List.forall_mem_append.mpr he.1) (List.forall_mem_append.mpr hG.1) fun e1 e2 h12 => ?_)
      (ih H T e e' he.2 hG.2 k)
    rw [List.forall_mem_append] at h12
    rw [ihl H T e1 e2 h12.1 fun v hv => hG.1.1 v (atomScoped_sub v hv), ihc H T e1 e2 h12.2 hG.1.2]

theorem litSat_coin {H T : Interp} {l : Sign × Atom}
    (he : ∀ v ∈ litVars l, e v = e' v) (hG : ∀ v ∈ atomScoped l.2, G v ↔ G' v) :
    litSat P G e H T l ↔ litSat P G' e' H T l :=
  satFamily_coin.2.1 l H T e e' he hG

theorem litsSat_coin {H T : Interp} {ls : List (Sign × Atom)} (he : ∀ v ∈ (litsTerms ls).flatMap Term.vars, e v = e' v)
    (hG : ∀ v ∈ (litsTerms ls).flatMap Term.vars, G v ↔ G' v) : litsSat P G e H T ls ↔ litsSat P G' e' H T ls :=
  satFamily_coin.2.2.1 ls H T e e' he hG

theorem condLit_coin {c : CondLit} {e1 e2 : Env}
    (he : ∀ v ∈ (condLitTerms c).flatMap Term.vars, e1 v = e2 v)
    (hG : ∀ v ∈ (condLitTerms c).flatMap Term.vars, G v ↔ G' v) (W W' : Interp) :
    (litSat P G e1 W W' c.1 ↔ litSat P G' e2 W W' c.1) ∧ (litsSat P G e1 W W' c.2 ↔ litsSat P G' e2 W W' c.2) := by
  obtain ⟨⟨s, a⟩, cond⟩ := c
  rw [condLitTerms, List.flatMap_append, List.forall_mem_append] at he hG
  exact ⟨litSat_coin he.1 fun v hv => hG.1 v (atomScoped_sub v hv), litsSat_coin he.2 hG.2⟩

theorem condLitSat_coin {H T : Interp} {c : CondLit}
    (he : ∀ v ∈ (condLitTerms c).flatMap Term.vars, e v = e' v)
    (hG : ∀ v ∈ (condLitTerms c).flatMap Term.vars, G v ↔ G' v) :
    condLitSat P G e H T c ↔ condLitSat P G' e' H T c :=
  forall_agree_congr he hG fun e1 e2 h12 => by
    have hc := condLit_coin (P := P) h12 hG
    rw [(hc H T).1, (hc H T).2, (hc T T).1, (hc T T).2]

theorem blitSat_coin {H T : Interp} {b : BLit}
    (he : ∀ v ∈ b.vars, e v = e' v) (hG : ∀ v ∈ blitScoped b, G v ↔ G' v) :
    blitSat P G e H T b ↔ blitSat P G' e' H T b := by
  cases b with
  | lit l => exact litSat_coin he hG
  | clit c => exact condLitSat_coin he hG

theorem bodySat_coin {H T : Interp} {b : List BLit}
    (he : ∀ v ∈ b.flatMap BLit.vars, e v = e' v) (hG : ∀ v ∈ bodyScoped b, G v ↔ G' v) :
    bodySat P G e H T b ↔ bodySat P G' e' H T b :=
  forall₂_congr fun l hl => blitSat_coin (fun v hv => he v (List.mem_flatMap.mpr ⟨l, hl, hv⟩))
    fun v hv => hG v (List.mem_flatMap.mpr ⟨l, hl, hv⟩)

theorem litSat_congr {H T : Interp} {l : Sign × Atom} {e1 e2 : Env}
    (h : ∀ v ∈ litVars l, e1 v = e2 v) : litSat P G e1 H T l ↔ litSat P G e2 H T l :=
  litSat_coin h fun _ _ => Iff.rfl

theorem litsSat_congr {H T : Interp} {ls : List (Sign × Atom)} {e1 e2 : Env}
    (h : ∀ v ∈ (litsTerms ls).flatMap Term.vars, e1 v = e2 v) : litsSat P G e1 H T ls ↔ litsSat P G e2 H T ls :=
  litsSat_coin h fun _ _ => Iff.rfl

theorem bodySat_congr {H T : Interp} {b : List BLit} {e1 e2 : Env}
    (h : ∀ v ∈ b.flatMap BLit.vars, e1 v = e2 v) : bodySat P G e1 H T b ↔ bodySat P G e2 H T b :=
  bodySat_coin h fun _ _ => Iff.rfl

/-! Outside its scopes a body literal has only variables of `blitGlobals`, and a scope is the same opened at `e` or at
an `e'` inside it (`Agree.congr_left`); so `Agree G e e'` is enough, whatever the two do on variables that occur in
scopes only. -/

theorem Agree.congr_left (h : Agree G e e') (e1 : Env) : Agree G e e1 ↔ Agree G e' e1 :=
  forall₂_congr fun v hv => by rw [h v hv]

theorem bTuples_agree (h : Agree G e e') {H T : Interp} :
    ∀ {es : List (List Term × List (Sign × Atom))} (tup : List Sym),
      bTuples P G e H T es tup ↔ bTuples P G e' H T es tup
  | [], _ => by simp only [bTuples]
  | (ts, c) :: es, tup => by simp only [bTuples, h.congr_left, bTuples_agree h tup]

theorem cCount_agree (h : Agree G e e') {H T : Interp} :
    ∀ {es : List ((Sign × Atom) × List (Sign × Atom))} (k : Nat), cCount P G e H T es k ↔ cCount P G e' H T es k
  | [], _ => by simp only [cCount]
  | (l, c) :: es, k => by simp only [cCount, h.congr_left, cCount_agree h k]

theorem blitSat_agree (h : Agree G e e') {H T : Interp} {b : BLit}
    (hb : ∀ v ∈ blitGlobals b, G v) : blitSat P G e H T b ↔ blitSat P G e' H T b := by
  have he : ∀ v ∈ blitGlobals b, e v = e' v := fun v hv => (h v (hb v hv)).symm
  cases b with
  | clit c => simp only [blitSat, condLitSat, h.congr_left]
  | lit l =>
    obtain ⟨s, a⟩ := l
    cases a with
    | bagg ln cl lg f es rg =>
      rw [blitGlobals, List.flatMap_append, List.forall_mem_append] at he
      exact atomSat_bagg_congr s ln cl f (guardVal_congr he.1) (guardVal_congr he.2)
        (bTuples_agree h) (bTuples_agree h)
    | agg lg es rg =>
      rw [blitGlobals, List.flatMap_append, List.forall_mem_append] at he
      exact atomSat_agg_congr s (guardVal_congr he.1) (guardVal_congr he.2)
        (cCount_agree h) (cCount_agree h)
    | _ => exact litSat_congr he

theorem bodySat_agree (h : Agree G e e') {H T : Interp} {b : List BLit}
    (hb : ∀ v ∈ bodyGlobals b, G v) : bodySat P G e H T b ↔ bodySat P G e' H T b :=
  forall₂_congr fun l hl => blitSat_agree h fun v hv => hb v (List.mem_flatMap.mpr ⟨l, hl, hv⟩)

theorem blitSat_gcongr {H T : Interp} {b : BLit}
    (h : ∀ v ∈ blitScoped b, G v ↔ G' v) : blitSat P G e H T b ↔ blitSat P G' e H T b :=
  blitSat_coin (fun _ _ => rfl) h

theorem bodySat_gcongr {H T : Interp} {b : List BLit}
    (h : ∀ v ∈ bodyScoped b, G v ↔ G' v) : bodySat P G e H T b ↔ bodySat P G' e H T b :=
  bodySat_coin (fun _ _ => rfl) h

end NgoVerif.Sem
