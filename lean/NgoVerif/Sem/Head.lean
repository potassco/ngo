import NgoVerif.Sem.Program
import NgoVerif.Sem.Indep
import NgoVerif.Sem.Coincidence
/-!
# A concrete head semantics (Abstract-Gringo reading), its independence and coincidence properties

`Sem/Program.lean` keeps the meaning of heads a parameter (`PParams.headSat`), because the rewrites proved there only
touch bodies.  The theorems that *add or delete whole rules* (definitional extensions: `unused`, `projection`,
`duplication`, the domain/order templates) need to know what a head means.  `stdHeadSat` is the reading clingo
implements:

* `a :- B.`          the instance is satisfied iff `a ∈ H`; an instance whose head term is undefined is dropped
                      (satisfied), `not a` / `not not a` in a head read `¬T a` / `T a`, `#false` is never satisfied;
* `l₁:c̄₁ ; … :- B.`  some instance of some element has its condition and its literal true (an element whose condition
                      is false contributes nothing: `a : b.` alone is unsatisfiable - checked against clingo 5.8);
* `lg { l:c̄ ; … } rg :- B.`  every instance whose condition holds is *free* (`l ∨ ¬l`), and the bounds are read as the
                      literal `not not lg {…} rg` (a choice rule with bounds is the unbounded choice plus the constraint
                      `:- B, not lg {…} rg`).  `oldAggRel .dneg` is handed the count at `H` and the count at `T`
                      (`stdHeadSat_agg`); that it looks at `T` only is a hypothesis where a proof needs it (`DnegOld` in
                      `Proofs/C08impl.lean`);
* `lg #f { t̄ : l : c̄ ; … } rg :- B.` likewise with the aggregate relation on tuples.

`stdParams P` packages it as a `PParams`.
-/
namespace NgoVerif.Sem
variable (P : Params)

def headLitSat (G : String → Prop) (e : Env) (H T : Interp) : Sign × Atom → Prop
  | (.pos, .sym t) => ∀ a, groundAtom P e t = some a → H a
  | (.neg, .sym t) => ∀ a, groundAtom P e t = some a → ¬ T a
  | (.dneg, .sym t) => ∀ a, groundAtom P e t = some a → T a
  | (s, .cmp t gs) => litSat P G e H T (s, .cmp t gs)
  | (s, .bool b) => litSat P G e H T (s, .bool b)
  | (s, .bagg l c lg f es rg) => litSat P G e H T (s, .bagg l c lg f es rg)
  | (s, .agg lg es rg) => litSat P G e H T (s, .agg lg es rg)
  | (_, .theory _) => False

def choiceOk (G : String → Prop) (e : Env) (H T : Interp) (elems : List CondLit) : Prop :=
  ∀ c ∈ elems, ∀ e', Agree G e e' → litsSat P G e' H T c.2 → (litSat P G e' H T c.1 ∨ ¬ litSat P G e' T T c.1)

def haggTuples (elems : List (List Term × CondLit)) : List (List Term × List (Sign × Atom)) :=
  elems.map fun x => (x.1, x.2.1 :: x.2.2)

def stdHeadSat (G : String → Prop) (e : Env) (H T : Interp) : Head → Prop
  | .lit l => headLitSat P G e H T l
  | .disj elems => ∃ c ∈ elems, ∃ e', Agree G e e' ∧ litsSat P G e' H T c.2 ∧ litSat P G e' H T c.1
  | .agg lg elems rg =>
    choiceOk P G e H T elems ∧
      P.oldAggRel .dneg (guardVal P e lg) (guardVal P e rg) (cCount P G e H H elems) (cCount P G e T T elems)
  | .hagg lg f elems rg =>
    choiceOk P G e H T (elems.map (·.2)) ∧
      P.aggRel .dneg (guardVal P e lg) f (guardVal P e rg) (bTuples P G e H H (haggTuples elems))
        (bTuples P G e T T (haggTuples elems))
  | .theory _ => False

theorem headLitSat_pos_sym (G : String → Prop) (e : Env) (H T : Interp) (t : Term) :
    headLitSat P G e H T (.pos, .sym t) ↔ ∀ a, groundAtom P e t = some a → H a := Iff.rfl

variable {P} in
theorem headLitSat_pos_fn {G : String → Prop} {e : Env} {H T : Interp} {n : String} {args : List Term} :
    headLitSat P G e H T (.pos, .sym (.fn n args false)) ↔ ∀ vals, evalTerms P e args = some vals → H ⟨n, vals⟩ := by
  simp only [headLitSat, groundAtom_fn, Option.map_eq_some_iff, forall_exists_index, and_imp, forall_apply_eq_imp_iff₂]

variable {P} in
theorem choiceOk_iff {G : String → Prop} {e : Env} {H T : Interp} {elems : List CondLit} :
    choiceOk P G e H T elems ↔
      ∀ c ∈ elems, ∀ e', Agree G e e' → litsSat P G e' H T c.2 → litSat P G e' T T c.1 → litSat P G e' H T c.1 := by
  simp only [choiceOk, Classical.or_iff_not_imp_right, Classical.not_not]

theorem stdHeadSat_lit (G : String → Prop) (e : Env) (H T : Interp) (l : Lit) :
    stdHeadSat P G e H T (.lit l) ↔ headLitSat P G e H T l := Iff.rfl

variable {P} in
/-- `G T` are explicit: the statement unfolds to one about `H` alone, so against a goal stated with `PParams.headSat`
unification would leave them unassigned -/
theorem stdHeadSat_atom (G : String → Prop) {e : Env} {H : Interp} (T : Interp) {t : Term} {a : GAtom}
    (ha : groundAtom P e t = some a) : stdHeadSat P G e H T (.lit (.pos, .sym t)) ↔ H a := by
  rw [stdHeadSat_lit, headLitSat_pos_sym, ha]
  exact ⟨fun h => h a rfl, fun h b hb => Option.some.inj hb ▸ h⟩

section
variable {P} {G : String → Prop} {e : Env} {H T : Interp}

theorem headLitSat_iff (l : Sign × Atom) :
    headLitSat P G e H T l ↔ ((∀ t, l.2 = .sym t → ∃ a, groundAtom P e t = some a) → litSat P G e H T l) := by
  -- `groundAtom` has at most one value: "every value has `φ`" and "some value has `φ`" differ only when there is none
  have sym (t) (φ : GAtom → Prop) : (∀ a, groundAtom P e t = some a → φ a) ↔
      ((∀ t', Atom.sym t = .sym t' → ∃ a, groundAtom P e t' = some a) → ∃ a, groundAtom P e t = some a ∧ φ a) := by
    simp only [Atom.sym.injEq, forall_eq']
    constructor
    · rintro h ⟨a, ha⟩; exact ⟨a, ha, h a ha⟩
    · intro h a ha
      obtain ⟨a', ha', hφ⟩ := h ⟨a, ha⟩
      rwa [Option.some.inj (ha.symm.trans ha')]
  -- the cases are the eight equations of `headLitSat`: 1–3 a symbolic atom under the three signs, 4–7 the atoms that are
  -- read as in a body, 8 a theory atom
  fun_cases headLitSat P G e H T l
  case case1 t | case2 t | case3 t => exact sym t _
  case case4 | case5 | case6 | case7 => exact ⟨fun h _ => h, fun h => h fun _ ht => nomatch ht⟩
  case case8 => exact ⟨False.elim, fun h => h fun _ ht => nomatch ht⟩

theorem stdHeadSat_agg {lg rg : Option Guard} {elems : List CondLit} : stdHeadSat P G e H T (.agg lg elems rg) ↔
    choiceOk P G e H T elems ∧ litSat P G e H T (.dneg, .agg lg elems rg) := Iff.rfl

/-- `l c` is the position of the body aggregate, which `litSat` ignores: any value does -/
theorem stdHeadSat_hagg {lg rg : Option Guard} {f : AggFun} {elems : List (List Term × CondLit)} (l c : Nat) :
    stdHeadSat P G e H T (.hagg lg f elems rg) ↔
      choiceOk P G e H T (elems.map (·.2)) ∧ litSat P G e H T (.dneg, .bagg l c lg f (haggTuples elems) rg) := Iff.rfl

end

variable {P}

def headAvoids (n : Sig) : Head → Bool
  | .lit l => atomAvoids n l.2
  | .disj elems => elems.all (condLitAvoids n)
  | .agg _ elems _ => elems.all (condLitAvoids n)
  | .hagg _ _ elems _ => elems.all fun x => condLitAvoids n x.2
  | .theory _ => true

theorem bElemsAvoid_hagg (n : Sig) : ∀ (es : List (List Term × CondLit)),
    bElemsAvoid n (haggTuples es) = es.all fun x => condLitAvoids n x.2
  | [] => rfl
  | (ts, ((s, a), c)) :: es => by
    have ih := bElemsAvoid_hagg n es
    rw [haggTuples] at ih ⊢
    rw [List.map_cons, bElemsAvoid, litsAvoid, ih, List.all_cons, condLitAvoids]

theorem headLitSat_indep {n : Sig} {G : String → Prop} {l : Sign × Atom} (hav : atomAvoids n l.2 = true) {e : Env}
    {H T H' T' : Interp} (aH : AgreeOffName n H H') (aT : AgreeOffName n T T') :
    headLitSat P G e H T l ↔ headLitSat P G e H' T' l := by
  rw [headLitSat_iff, headLitSat_iff, litSat_indep hav aH aT]

theorem choiceOk_indep {n : Sig} {G : String → Prop} {elems : List CondLit}
    (hav : elems.all (condLitAvoids n) = true) {e : Env}
    {H T H' T' : Interp} (aH : AgreeOffName n H H') (aT : AgreeOffName n T T') :
    choiceOk P G e H T elems ↔ choiceOk P G e H' T' elems := by
  simp only [List.all_eq_true] at hav
  refine forall₂_congr fun c hc => forall₂_congr fun e' _ => ?_
  have hel := @condLit_indep P n G c (hav c hc) e'
  rw [(hel aH aT).1, (hel aH aT).2, (hel aT aT).1]

theorem stdHeadSat_indep {n : Sig} {G : String → Prop} {h : Head} (hav : headAvoids n h = true) {e : Env}
    {H T H' T' : Interp} (aH : AgreeOffName n H H') (aT : AgreeOffName n T T') :
    stdHeadSat P G e H T h ↔ stdHeadSat P G e H' T' h := by
  cases h with
  | lit l => exact headLitSat_indep hav aH aT
  | disj elems =>
    simp only [headAvoids, List.all_eq_true] at hav
    refine exists_congr fun c => and_congr_right fun hc => exists_congr fun e' => and_congr_right fun _ => ?_
    have hel := condLit_indep (P := P) (G := G) (e := e') (hav c hc) aH aT
    exact and_congr hel.2 hel.1
  | agg lg elems rg =>
    rw [headAvoids] at hav
    rw [stdHeadSat_agg, stdHeadSat_agg, choiceOk_indep hav aH aT,
      litSat_indep (by rw [atomAvoids, cElemsAvoid_eq_all]; exact hav) aH aT]
  | hagg lg f elems rg =>
    rw [headAvoids] at hav
    rw [stdHeadSat_hagg 0 0, stdHeadSat_hagg 0 0,
      choiceOk_indep (by rw [List.all_map]; exact hav) aH aT,
      litSat_indep (by rw [atomAvoids, bElemsAvoid_hagg]; exact hav) aH aT]
  | theory t => exact Iff.rfl

theorem cElemsTerms_eq : ∀ (es : List CondLit), cElemsTerms es = es.flatMap condLitTerms
  | [] => by simp [cElemsTerms]
  | (l, c) :: es => by simp [cElemsTerms, condLitTerms, cElemsTerms_eq es]

theorem haggTuples_terms : ∀ (es : List (List Term × CondLit)),
    bElemsTerms (haggTuples es) = es.flatMap (fun e => e.1 ++ condLitTerms e.2)
  | [] => by simp [haggTuples, bElemsTerms]
  | (ts, (l, c)) :: es => by
    have ih := haggTuples_terms es
    simp only [haggTuples] at ih
    simp [haggTuples, bElemsTerms, litsTerms, condLitTerms, ih]

theorem headLitSat_coin {G G' : String → Prop} {H T : Interp} {l : Sign × Atom} {e e' : Env}
    (he : ∀ v ∈ litVars l, e v = e' v) (hG : ∀ v ∈ atomScoped l.2, G v ↔ G' v) :
    headLitSat P G e H T l ↔ headLitSat P G' e' H T l := by
  rw [headLitSat_iff, headLitSat_iff, litSat_coin he hG]
  refine imp_congr_left (forall₂_congr fun t ht => ?_)
  obtain ⟨s, a⟩ := l
  subst ht
  rw [litVars, litTerms, Atom.terms, List.flatMap_singleton] at he
  rw [groundAtom_congr he]

theorem mem_elems_vars {elems : List CondLit} {c : CondLit} (hc : c ∈ elems) {v : String}
    (hv : v ∈ (condLitTerms c).flatMap Term.vars) : v ∈ (elems.flatMap condLitTerms).flatMap Term.vars := by
  obtain ⟨t, ht, hvt⟩ := List.mem_flatMap.mp hv
  exact List.mem_flatMap.mpr ⟨t, List.mem_flatMap.mpr ⟨c, hc, ht⟩, hvt⟩

theorem choiceOk_coin {G G' : String → Prop} {H T : Interp} {elems : List CondLit} {e e' : Env}
    (he : ∀ v ∈ (elems.flatMap condLitTerms).flatMap Term.vars, e v = e' v)
    (hG : ∀ v ∈ (elems.flatMap condLitTerms).flatMap Term.vars, G v ↔ G' v) :
    choiceOk P G e H T elems ↔ choiceOk P G' e' H T elems :=
  forall₂_congr fun c hc =>
    have hGc := fun v hv => hG v (mem_elems_vars hc hv)
    forall_agree_congr (fun v hv => he v (mem_elems_vars hc hv)) hGc fun e1 e2 h12 => by
      have hel := condLit_coin (P := P) h12 hGc
      rw [(hel H T).1, (hel H T).2, (hel T T).1]

theorem stdHeadSat_coin {G G' : String → Prop} {H T : Interp} {h : Head} {e e' : Env}
    (he : ∀ v ∈ h.vars, e v = e' v) (hG : ∀ v ∈ h.vars, G v ↔ G' v) :
    stdHeadSat P G e H T h ↔ stdHeadSat P G' e' H T h := by
  cases h with
  | lit l =>
    obtain ⟨s, a⟩ := l
    exact headLitSat_coin he fun v hv => hG v (atomScoped_sub v hv)
  | disj elems =>
    refine exists_congr fun c => and_congr_right fun hc => ?_
    have hGc := fun v hv => hG v (mem_elems_vars hc hv)
    refine exists_agree_congr (fun v hv => he v (mem_elems_vars hc hv)) hGc fun e1 e2 h12 => ?_
    have hel := condLit_coin (P := P) h12 hGc H T
    exact and_congr hel.2 hel.1
  | agg lg elems rg =>
    have hv : Head.vars (.agg lg elems rg) = litVars (.dneg, .agg lg elems rg) := by
      rw [Head.vars, Head.terms, litVars, litTerms, Atom.terms, cElemsTerms_eq]
    have hs : ∀ v ∈ (elems.flatMap condLitTerms).flatMap Term.vars, v ∈ litVars (.dneg, .agg lg elems rg) := by
      rw [← cElemsTerms_eq]; exact atomScoped_sub (a := .agg lg elems rg)
    rw [hv] at he hG
    rw [stdHeadSat_agg, stdHeadSat_agg, litSat_coin he fun v hv => hG v (atomScoped_sub v hv),
      choiceOk_coin (fun v hv => he v (hs v hv)) fun v hv => hG v (hs v hv)]
  | hagg lg f elems rg =>
    have hv : Head.vars (.hagg lg f elems rg) = litVars (.dneg, .bagg 0 0 lg f (haggTuples elems) rg) := by
      rw [Head.vars, Head.terms, litVars, litTerms, Atom.terms, haggTuples_terms]
    have hs : ∀ v ∈ ((elems.map (·.2)).flatMap condLitTerms).flatMap Term.vars,
        v ∈ litVars (.dneg, .bagg 0 0 lg f (haggTuples elems) rg) := by
      intro v hv
      refine atomScoped_sub (a := .bagg 0 0 lg f (haggTuples elems) rg) v ?_
      simp only [atomScoped, haggTuples_terms, List.flatMap_map, List.mem_flatMap, List.mem_append] at hv ⊢
      obtain ⟨t, ⟨x, hx, ht⟩, hv⟩ := hv; exact ⟨t, ⟨x, hx, Or.inr ht⟩, hv⟩
    rw [hv] at he hG
    rw [stdHeadSat_hagg 0 0, stdHeadSat_hagg 0 0,
      litSat_coin he fun v hv => hG v (atomScoped_sub v hv),
      choiceOk_coin (fun v hv => he v (hs v hv)) fun v hv => hG v (hs v hv)]
  | theory t => exact Iff.rfl

theorem stdHeadSat_congr {G : String → Prop} {H T : Interp} {h : Head} {e1 e2 : Env}
    (hv : ∀ v ∈ h.vars, e1 v = e2 v) : stdHeadSat P G e1 H T h ↔ stdHeadSat P G e2 H T h :=
  stdHeadSat_coin hv fun _ _ => Iff.rfl

theorem stdHeadSat_gcongr {G G' : String → Prop} {H T : Interp} {h : Head} {e : Env}
    (hv : ∀ v ∈ h.vars, G v ↔ G' v) : stdHeadSat P G e H T h ↔ stdHeadSat P G' e H T h :=
  stdHeadSat_coin (fun _ _ => rfl) hv

/-- the head's global variables: those of a plain literal; elements are local -/
def stdHeadGlobals : Head → List String
  | .lit l => litVars l
  | .agg lg _ rg => (optGuardTerms lg ++ optGuardTerms rg).flatMap Term.vars
  | .hagg lg _ _ rg => (optGuardTerms lg ++ optGuardTerms rg).flatMap Term.vars
  | _ => []

theorem stdHeadGlobals_sub {h : Head} : ∀ v ∈ stdHeadGlobals h, v ∈ h.vars := by
  intro v hv
  unfold stdHeadGlobals at hv
  split at hv
  · exact hv
  · exact mem_guards_sub _ hv
  · exact mem_guards_sub _ hv
  · cases hv

variable (P) in
def stdParams : PParams := { P with headSat := stdHeadSat P, headGlobals := stdHeadGlobals }

@[simp] theorem stdParams_headSat : (stdParams P).headSat = stdHeadSat P := rfl
variable (P) in
@[simp] theorem stdParams_toParams : (stdParams P).toParams = P := rfl

theorem stdParams_ruleGlobals (h : Head) (b : List BLit) :
    ruleGlobals (stdParams P) h b = stdHeadGlobals h ++ bodyGlobals b := rfl

theorem stdParams_headSat_plain {G : String → Prop} {e : Env} {H T : Interp} {t : Term} :
    (stdParams P).headSat G e H T (.lit (.pos, .sym t)) ↔ ∀ a, groundAtom P e t = some a → H a := Iff.rfl

theorem ruleGlobals_cons_of_sub {h : Head} {x : BLit} {b : List BLit}
    (hx : ∀ v ∈ blitGlobals x, v ∈ stdHeadGlobals h ∨ v ∈ bodyGlobals b) (v : String) :
    v ∈ ruleGlobals (stdParams P) h (x :: b) ↔ v ∈ ruleGlobals (stdParams P) h b := by
  rw [stdParams_ruleGlobals, stdParams_ruleGlobals, bodyGlobals_cons, List.mem_append, List.mem_append, List.mem_append]
  exact ⟨fun hv => hv.elim Or.inl fun hv' => hv'.elim (hx v) Or.inr, Or.imp_right Or.inr⟩

theorem ruleGlobals_sub {h : Head} {pre post : List BLit} {x : BLit} {v : String}
    (hv : v ∈ ruleGlobals (stdParams P) h (pre ++ x :: post)) {own : List String} (hown : ∀ v ∈ blitGlobals x, v ∈ own) :
    v ∈ h.vars ++ (pre ++ post).flatMap BLit.vars ++ own := by
  have hv' : v ∈ stdHeadGlobals h ++ bodyGlobals (pre ++ x :: post) := hv
  simp only [bodyGlobals, List.flatMap_append, List.flatMap_cons, List.mem_append, List.mem_flatMap] at hv' ⊢
  rcases hv' with h1 | ⟨y, hy, hvy⟩ | h3 | ⟨y, hy, hvy⟩
  · exact Or.inl (Or.inl (stdHeadGlobals_sub v h1))
  · exact Or.inl (Or.inr (Or.inl ⟨y, hy, blitGlobals_sub y v hvy⟩))
  · exact Or.inr (hown v h3)
  · exact Or.inl (Or.inr (Or.inr ⟨y, hy, blitGlobals_sub y v hvy⟩))

theorem headSat_of_fix {σ : String → String} {h : Head} (hfix : ∀ v ∈ h.vars, σ v = v) {G : String → Prop} {e : Env}
    {H T : Interp} : (stdParams P).headSat G (fun v => e (σ v)) H T h ↔ (stdParams P).headSat G e H T h :=
  stdHeadSat_congr fun v hv => by rw [hfix v hv]

end NgoVerif.Sem
