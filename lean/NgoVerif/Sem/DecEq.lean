import NgoVerif.Syntax
/-!
# A decidable, *proved* equality test for the AST mirror

The derived `BEq` instances of the nested inductive types (`Sym`, `Term`, `Atom`, …) come without `LawfulBEq`.  The
checks whose `true` answer is used as a hypothesis of a theorem (`DriverSem.lean`) therefore use the explicit tests
below; `…Eqb_eq` shows that `true` means equality.

The proofs go by functional induction on the test (the principles `f.mutual_induct…` that Lean derives from the
definitions): one case per alternative of the definition, so `_, _ => false` is a single case, whose hypothesis reads
`false = true`, instead of one case per pair of distinct constructors.  A mutual family is proved as one conjunction and
then projected: a `mutual` block of structurally recursive theorems over the nested type is slow to compile.
-/
namespace NgoVerif

mutual
def symEqb : Sym → Sym → Bool
  | .num a, .num b => a == b
  | .str a, .str b => a == b
  | .fn n as p, .fn m bs q => n == m && p == q && symsEqb as bs
  | .inf, .inf => true
  | .sup, .sup => true
  | _, _ => false
def symsEqb : List Sym → List Sym → Bool
  | [], [] => true
  | a :: as, b :: bs => symEqb a b && symsEqb as bs
  | _, _ => false
end

/-- The cases are the alternatives of the two definitions in the order of the text; the third argument `r` of a motive
is the value of the test, already rewritten to the right-hand side of the alternative. -/
theorem symFamilyEqb_eq :
    (∀ a b : Sym, symEqb a b = true → a = b) ∧ (∀ as bs : List Sym, symsEqb as bs = true → as = bs) := by
  apply symEqb.mutual_induct_unfolding
    (motive_1 := fun a b r => r = true → a = b) (motive_2 := fun as bs r => r = true → as = bs)
  case case1 => intro a b h; rw [beq_iff_eq] at h; rw [h]
  case case2 => intro a b h; rw [beq_iff_eq] at h; rw [h]
  case case3 =>
    intro n as p m bs q ih h
    simp only [Bool.and_eq_true, beq_iff_eq] at h
    rw [h.1.1, h.1.2, ih h.2]
  case case4 => intro _; rfl
  case case5 => intro _; rfl
  case case6 => intro a b _ _ _ _ _ h; exact Bool.noConfusion h
  case case7 => intro _; rfl
  case case8 =>
    intro a as b bs ih1 ih2 h
    rw [Bool.and_eq_true] at h
    rw [ih1 h.1, ih2 h.2]
  case case9 => intro as bs _ _ h; exact Bool.noConfusion h

theorem symEqb_eq : ∀ a b : Sym, symEqb a b = true → a = b := symFamilyEqb_eq.1
theorem symsEqb_eq : ∀ as bs : List Sym, symsEqb as bs = true → as = bs := symFamilyEqb_eq.2

mutual
def termEqb : Term → Term → Bool
  | .var a, .var b => a == b
  | .sym a, .sym b => symEqb a b
  | .un o a, .un p b => o == p && termEqb a b
  | .bin o a1 a2, .bin p b1 b2 => o == p && termEqb a1 b1 && termEqb a2 b2
  | .ival a1 a2, .ival b1 b2 => termEqb a1 b1 && termEqb a2 b2
  | .fn n as e, .fn m bs f => n == m && e == f && termsEqb as bs
  | .pool as, .pool bs => termsEqb as bs
  | _, _ => false
def termsEqb : List Term → List Term → Bool
  | [], [] => true
  | a :: as, b :: bs => termEqb a b && termsEqb as bs
  | _, _ => false
end

theorem termFamilyEqb_eq :
    (∀ a b : Term, termEqb a b = true → a = b) ∧ (∀ as bs : List Term, termsEqb as bs = true → as = bs) := by
  apply termEqb.mutual_induct_unfolding
    (motive_1 := fun a b r => r = true → a = b) (motive_2 := fun as bs r => r = true → as = bs)
  case case1 => intro a b h; rw [beq_iff_eq] at h; rw [h]
  case case2 => intro a b h; rw [symEqb_eq a b h]
  case case3 =>
    intro o a p b ih h
    simp only [Bool.and_eq_true, beq_iff_eq] at h
    rw [h.1, ih h.2]
  case case4 =>
    intro o a1 a2 p b1 b2 ih1 ih2 h
    simp only [Bool.and_eq_true, beq_iff_eq] at h
    rw [h.1.1, ih1 h.1.2, ih2 h.2]
  case case5 =>
    intro a1 a2 b1 b2 ih1 ih2 h
    rw [Bool.and_eq_true] at h
    rw [ih1 h.1, ih2 h.2]
  case case6 =>
    intro n as e m bs f ih h
    simp only [Bool.and_eq_true, beq_iff_eq] at h
    rw [h.1.1, h.1.2, ih h.2]
  case case7 => intro as bs ih h; rw [ih h]
  case case8 => intro a b _ _ _ _ _ _ _ h; exact Bool.noConfusion h
  case case9 => intro _; rfl
  case case10 =>
    intro a as b bs ih1 ih2 h
    rw [Bool.and_eq_true] at h
    rw [ih1 h.1, ih2 h.2]
  case case11 => intro as bs _ _ h; exact Bool.noConfusion h

theorem termEqb_eq : ∀ a b : Term, termEqb a b = true → a = b := termFamilyEqb_eq.1
theorem termsEqb_eq : ∀ as bs : List Term, termsEqb as bs = true → as = bs := termFamilyEqb_eq.2

def guardEqb (a b : Guard) : Bool := a.op == b.op && termEqb a.term b.term

theorem guardEqb_eq (a b : Guard) (h : guardEqb a b = true) : a = b := by
  cases a; cases b
  simp only [guardEqb, Bool.and_eq_true, beq_iff_eq] at h
  simp only [Guard.mk.injEq]
  exact ⟨h.1, termEqb_eq _ _ h.2⟩

def guardsEqb : List Guard → List Guard → Bool
  | [], [] => true
  | a :: as, b :: bs => guardEqb a b && guardsEqb as bs
  | _, _ => false

theorem guardsEqb_eq : ∀ as bs : List Guard, guardsEqb as bs = true → as = bs := by
  intro as bs
  fun_induction guardsEqb as bs with
  | case1 => intro _; rfl
  | case2 a as b bs ih => intro h; rw [Bool.and_eq_true] at h; rw [guardEqb_eq a b h.1, ih h.2]
  | case3 => intro h; exact Bool.noConfusion h

def optGuardEqb : Option Guard → Option Guard → Bool
  | none, none => true
  | some a, some b => guardEqb a b
  | _, _ => false

theorem optGuardEqb_eq : ∀ a b : Option Guard, optGuardEqb a b = true → a = b := by
  intro a b
  fun_cases optGuardEqb a b with
  | case1 => intro _; rfl
  | case2 a b => intro h; rw [guardEqb_eq a b h]
  | case3 => intro h; exact Bool.noConfusion h

mutual
def atomEqb : Atom → Atom → Bool
  | .sym a, .sym b => termEqb a b
  | .cmp a gs, .cmp b hs => termEqb a b && guardsEqb gs hs
  | .bool a, .bool b => a == b
  | .bagg l c lg f es rg, .bagg l' c' lg' f' es' rg' =>
    l == l' && c == c' && optGuardEqb lg lg' && f == f' && bElemsEqb es es' && optGuardEqb rg rg'
  | .agg lg es rg, .agg lg' es' rg' => optGuardEqb lg lg' && cElemsEqb es es' && optGuardEqb rg rg'
  | .theory a, .theory b => a == b
  | _, _ => false
def litsEqb : List (Sign × Atom) → List (Sign × Atom) → Bool
  | [], [] => true
  | (s, a) :: as, (t, b) :: bs => s == t && atomEqb a b && litsEqb as bs
  | _, _ => false
def bElemsEqb : List (List Term × List (Sign × Atom)) → List (List Term × List (Sign × Atom)) → Bool
  | [], [] => true
  | (ts, c) :: es, (us, d) :: fs => termsEqb ts us && litsEqb c d && bElemsEqb es fs
  | _, _ => false
def cElemsEqb : List ((Sign × Atom) × List (Sign × Atom)) → List ((Sign × Atom) × List (Sign × Atom)) → Bool
  | [], [] => true
  | ((s, a), c) :: es, ((t, b), d) :: fs => s == t && atomEqb a b && litsEqb c d && cElemsEqb es fs
  | _, _ => false
end

/-- Cases 1–7 are `atomEqb`, 8–10 `cElemsEqb`, 11–13 `litsEqb`, 14–16 `bElemsEqb`.  The `_unfolding` principle is of no
use for this family of four (in Lean 4.33 its cases for the three list tests carry a raw `PSum.rec …` instead of the
value), so every case unfolds the test itself: a fall-through case with the last equation of the definition,
`f.eq_N : (the arguments match no earlier alternative) → f x y = false`, whose hypotheses are those of the case. -/
theorem atomFamilyEqb_eq :
    (∀ a b : Atom, atomEqb a b = true → a = b) ∧
    (∀ es fs : List ((Sign × Atom) × List (Sign × Atom)), cElemsEqb es fs = true → es = fs) ∧
    (∀ as bs : List (Sign × Atom), litsEqb as bs = true → as = bs) ∧
    (∀ es fs : List (List Term × List (Sign × Atom)), bElemsEqb es fs = true → es = fs) := by
  apply atomEqb.mutual_induct
  case case1 => intro a b h; simp only [atomEqb] at h; rw [termEqb_eq a b h]
  case case2 =>
    intro a gs b hs h; simp only [atomEqb, Bool.and_eq_true] at h; rw [termEqb_eq a b h.1, guardsEqb_eq gs hs h.2]
  case case3 => intro a b h; simp only [atomEqb, beq_iff_eq] at h; rw [h]
  case case4 =>
    intro l c lg f es rg l' c' lg' f' es' rg' ih h
    simp only [atomEqb, Bool.and_eq_true, beq_iff_eq] at h
    rw [h.1.1.1.1.1, h.1.1.1.1.2, optGuardEqb_eq lg lg' h.1.1.1.2, h.1.1.2, ih h.1.2, optGuardEqb_eq rg rg' h.2]
  case case5 =>
    intro lg es rg lg' es' rg' ih h
    simp only [atomEqb, Bool.and_eq_true] at h
    rw [optGuardEqb_eq lg lg' h.1.1, ih h.1.2, optGuardEqb_eq rg rg' h.2]
  case case6 => intro a b h; simp only [atomEqb, beq_iff_eq] at h; rw [h]
  case case7 => intro a b h1 h2 h3 h4 h5 h6 h; rw [atomEqb.eq_7 a b h1 h2 h3 h4 h5 h6] at h; exact Bool.noConfusion h
  case case8 => intro _; rfl
  case case9 =>
    intro s a c es t b d fs ih1 ih2 ih3 h
    simp only [cElemsEqb, Bool.and_eq_true, beq_iff_eq] at h
    rw [h.1.1.1, ih1 h.1.1.2, ih2 h.1.2, ih3 h.2]
  case case10 => intro a b h1 h2 h; rw [cElemsEqb.eq_3 a b h1 h2] at h; exact Bool.noConfusion h
  case case11 => intro _; rfl
  case case12 =>
    intro s a as t b bs ih1 ih2 h
    simp only [litsEqb, Bool.and_eq_true, beq_iff_eq] at h
    rw [h.1.1, ih1 h.1.2, ih2 h.2]
  case case13 => intro a b h1 h2 h; rw [litsEqb.eq_3 a b h1 h2] at h; exact Bool.noConfusion h
  case case14 => intro _; rfl
  case case15 =>
    intro ts c es us d fs ih1 ih2 h
    simp only [bElemsEqb, Bool.and_eq_true] at h
    rw [termsEqb_eq ts us h.1.1, ih1 h.1.2, ih2 h.2]
  case case16 => intro a b h1 h2 h; rw [bElemsEqb.eq_3 a b h1 h2] at h; exact Bool.noConfusion h

theorem atomEqb_eq : ∀ a b : Atom, atomEqb a b = true → a = b := atomFamilyEqb_eq.1
theorem litsEqb_eq : ∀ as bs : List (Sign × Atom), litsEqb as bs = true → as = bs := atomFamilyEqb_eq.2.2.1
theorem bElemsEqb_eq : ∀ es fs : List (List Term × List (Sign × Atom)), bElemsEqb es fs = true → es = fs :=
  atomFamilyEqb_eq.2.2.2
theorem cElemsEqb_eq : ∀ es fs : List ((Sign × Atom) × List (Sign × Atom)), cElemsEqb es fs = true → es = fs :=
  atomFamilyEqb_eq.2.1

def litEqb (a b : Sign × Atom) : Bool := a.1 == b.1 && atomEqb a.2 b.2

theorem litEqb_eq (a b : Sign × Atom) (h : litEqb a b = true) : a = b := by
  obtain ⟨s, a⟩ := a; obtain ⟨t, b⟩ := b
  simp only [litEqb, Bool.and_eq_true, beq_iff_eq] at h
  rw [h.1, atomEqb_eq a b h.2]

def blitEqb : BLit → BLit → Bool
  | .lit a, .lit b => litEqb a b
  | .clit a, .clit b => litEqb a.1 b.1 && litsEqb a.2 b.2
  | _, _ => false

theorem blitEqb_eq : ∀ a b : BLit, blitEqb a b = true → a = b := by
  intro a b
  fun_cases blitEqb a b with
  | case1 a b => intro h; rw [litEqb_eq a b h]
  | case2 a b =>
    intro h
    rw [Bool.and_eq_true] at h
    rw [Prod.ext (litEqb_eq a.1 b.1 h.1) (litsEqb_eq a.2 b.2 h.2)]
  | case3 => intro h; exact Bool.noConfusion h

theorem mem_of_any_eqb {α : Type} {eqb : α → α → Bool} (heq : ∀ a b, eqb a b = true → a = b) {x : α} {l : List α}
    (h : l.any (eqb x) = true) : x ∈ l := by
  obtain ⟨y, hy, he⟩ := List.any_eq_true.mp h
  exact heq x y he ▸ hy

def blitMem (x : BLit) (l : List BLit) : Bool := l.any (blitEqb x)

theorem blitMem_mem {x : BLit} {l : List BLit} (h : blitMem x l = true) : x ∈ l :=
  mem_of_any_eqb blitEqb_eq h

theorem mem_iff_of_contains_beq {a b : List String} {x y : String} (h : (a.contains x == b.contains y) = true) :
    x ∈ a ↔ y ∈ b := by
  rw [← List.contains_iff_mem, ← List.contains_iff_mem, beq_iff_eq.mp h]

end NgoVerif
