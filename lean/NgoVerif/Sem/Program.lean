import NgoVerif.Sem.Denote
import NgoVerif.Model.Collect
/-!
# Programs: here-and-there models, stable models, strong equivalence (for the typed AST)

The head semantics is a *parameter* (`headSat`): the rewrites proved here only touch bodies, so the theorems hold for
plain, disjunctive, choice and aggregate heads alike.  A statement is satisfied at `(H,T)` iff for every environment
the body implies the head at `(H,T)` and at `(T,T)`.  `StrongEq` = same HT models, hence the same stable models
whatever statements (e.g. facts over any predicate) are added.

`Models`, `StrongEq` and `BodyEq` range over ALL pairs `(H,T)`, not only over those with `H ⊆ T`: only `Stable` asks for
`Sub H T`.  So a rewrite that is correct only when `H ⊆ T` (whatever rests on persistence, e.g. `a, not not a` ↦ `a`) is
neither a `StrongEq` nor a `BodyEq`, and `stmSat_rule_congr` does not apply to it.  Such a rewrite is stated as
`Stable … ↔ Stable …` and proved from the models below `T`, as `remove_entailed` in `Proofs/C08impl.lean` is.

In an equivalence between two statements or two bodies the rewritten one stands on the left
(`stmSat P H T (f s) ↔ stmSat P H T s`, `BodyEq Q b' b`), the form `strongEq_of_map` and `strongEq_of_filterMap` ask
for; `StrongEq.replace` takes the equivalence source first, like its conclusion, and so do the statement lemmas of
`C08anon*` and `C11sem` that feed it.
-/
namespace NgoVerif.Sem

/-- syntactic global variables of a body: those occurring in a literal outside aggregate elements, or in an
aggregate's guards (conditional literals and aggregate elements have local scope) -/
def blitGlobals : BLit → List String
  | .lit (_, .bagg _ _ lg _ _ rg) => (optGuardTerms lg ++ optGuardTerms rg).flatMap Term.vars
  | .lit (_, .agg lg _ rg) => (optGuardTerms lg ++ optGuardTerms rg).flatMap Term.vars
  | .lit l => litVars l
  | .clit _ => []

def bodyGlobals (b : List BLit) : List String := b.flatMap blitGlobals

structure PParams extends Params where
  /-- the first argument is the set of global variables of the rule: head elements quantify their local ones -/
  headSat : (String → Prop) → Env → Interp → Interp → Head → Prop
  headGlobals : Head → List String

variable (P : PParams)

def ruleGlobals (h : Head) (b : List BLit) : List String := P.headGlobals h ++ bodyGlobals b

/-- objectives and directives constrain nothing -/
def stmSat (H T : Interp) : Stm → Prop
  | .rule _ _ h b => ∀ e : Env,
      (bodySat P.toParams (fun v => v ∈ ruleGlobals P h b) e H T b →
        P.headSat (fun v => v ∈ ruleGlobals P h b) e H T h) ∧
      (bodySat P.toParams (fun v => v ∈ ruleGlobals P h b) e T T b →
        P.headSat (fun v => v ∈ ruleGlobals P h b) e T T h)
  | _ => True

def Models (prg : Prog) (H T : Interp) : Prop := ∀ s ∈ prg, stmSat P H T s

def Sub (H T : Interp) : Prop := ∀ a, H a → T a

def Stable (prg : Prog) (T : Interp) : Prop :=
  Models P prg T T ∧ ∀ H, Sub H T → (∃ a, T a ∧ ¬ H a) → ¬ Models P prg H T

/-- the ground tuples an objective contributes in the total interpretation `T` (set semantics) -/
def costTuples (T : Interp) : Stm → (Sym × Sym × List Sym) → Prop
  | .minimize _ _ w p ts b, (wv, pv, tv) => ∃ e : Env,
      bodySat P.toParams (fun v => v ∈ bodyGlobals b ++ (w :: p :: ts).flatMap Term.vars) e T T b ∧
      evalTerm P.toParams e w = some wv ∧ evalTerm P.toParams e p = some pv ∧ evalTerms P.toParams e ts = some tv
  | _, _ => False

def StrongEq (prg prg' : Prog) : Prop := ∀ H T, Models P prg H T ↔ Models P prg' H T

theorem StrongEq.stable {prg prg' : Prog} (h : StrongEq P prg prg') (T : Interp) : Stable P prg T ↔ Stable P prg' T :=
  and_congr (h T T) (forall_congr' fun H => imp_congr_right fun _ => imp_congr_right fun _ => not_congr (h H T))

variable {P} {H T : Interp}

theorem Stable.least {prg : Prog} (hS : Stable P prg T) (hsub : Sub H T) (hM : Models P prg H T) : Sub T H :=
  fun a ha => Classical.byContradiction fun hn => hS.2 H hsub ⟨a, ha, hn⟩ hM

theorem stmSat_rule {l c : Nat} {h : Head} {b : List BLit} :
    stmSat P H T (.rule l c h b) ↔ ∀ e : Env,
      (bodySat P.toParams (fun v => v ∈ ruleGlobals P h b) e H T b → P.headSat (fun v => v ∈ ruleGlobals P h b) e H T h) ∧
      (bodySat P.toParams (fun v => v ∈ ruleGlobals P h b) e T T b → P.headSat (fun v => v ∈ ruleGlobals P h b) e T T h) :=
  Iff.rfl

theorem ruleGlobals_congr (h : Head) {b b' : List BLit} (hG : ∀ v, v ∈ bodyGlobals b' ↔ v ∈ bodyGlobals b) :
    (fun v => v ∈ ruleGlobals P h b') = fun v => v ∈ ruleGlobals P h b :=
  funext fun v => propext (by rw [ruleGlobals, ruleGlobals, List.mem_append, List.mem_append, hG])

theorem stmSat_rule_congr {l c : Nat} (h : Head) {b b' : List BLit}
    (hG : ∀ v, v ∈ bodyGlobals b' ↔ v ∈ bodyGlobals b)
    (hs : ∀ e X T, bodySat P.toParams (fun v => v ∈ ruleGlobals P h b) e X T b' ↔
      bodySat P.toParams (fun v => v ∈ ruleGlobals P h b) e X T b) (H T : Interp) :
    stmSat P H T (.rule l c h b') ↔ stmSat P H T (.rule l c h b) := by
  simp only [stmSat, ruleGlobals_congr h hG, hs]

theorem models_append {p q : Prog} : Models P (p ++ q) H T ↔ Models P p H T ∧ Models P q H T :=
  List.forall_mem_append

theorem models_cons {s : Stm} {p : Prog} : Models P (s :: p) H T ↔ stmSat P H T s ∧ Models P p H T :=
  List.forall_mem_cons

theorem models_map {ι : Type} {f : ι → Stm} {l : List ι} : Models P (l.map f) H T ↔ ∀ i ∈ l, stmSat P H T (f i) :=
  List.forall_mem_map

theorem models_frame {pre : Prog} {s : Stm} {post : Prog} :
    Models P (pre ++ s :: post) H T ↔ stmSat P H T s ∧ Models P (pre ++ post) H T := by
  rw [models_append, models_cons, models_append, and_left_comm]

theorem StrongEq.append {prg prg' : Prog} (h : StrongEq P prg prg') (extra : Prog) :
    StrongEq P (prg ++ extra) (prg' ++ extra) :=
  fun H T => by rw [models_append, models_append, h H T]

theorem StrongEq.of_same {prg prg' : Prog} (h : ∀ s, s ∈ prg ↔ s ∈ prg') : StrongEq P prg prg' :=
  fun _ _ => forall_congr' fun s => by rw [h s]

theorem StrongEq.replace {s s' : Stm} (h : ∀ H T, stmSat P H T s ↔ stmSat P H T s') (pre post : Prog) :
    StrongEq P (pre ++ s :: post) (pre ++ s' :: post) :=
  fun H T => by rw [models_frame, models_frame, h H T]

theorem StrongEq.replace_minimize {l c l' c' : Nat} {w p w' p' : Term} {ts ts' : List Term} {b b' : List BLit}
    (pre post : Prog) :
    StrongEq P (pre ++ .minimize l c w p ts b :: post) (pre ++ .minimize l' c' w' p' ts' b' :: post) :=
  fun H T => by rw [models_frame, models_frame]; exact Iff.rfl

theorem strongEq_of_map (f : Stm → Stm) (prg : Prog) (h : ∀ s ∈ prg, ∀ H T, stmSat P H T (f s) ↔ stmSat P H T s) :
    StrongEq P prg (prg.map f) :=
  fun H T => (models_map.trans (forall₂_congr fun s hs => h s hs H T)).symm

theorem bodyGlobals_cons (x : BLit) (b : List BLit) : bodyGlobals (x :: b) = blitGlobals x ++ bodyGlobals b :=
  List.flatMap_cons

theorem bodyGlobals_singleton (x : BLit) : bodyGlobals [x] = blitGlobals x :=
  List.flatMap_singleton _ _

theorem mem_bodyGlobals_singleton {v : String} {x : BLit} : v ∈ bodyGlobals [x] ↔ v ∈ blitGlobals x := by
  rw [bodyGlobals_singleton]

theorem bodyGlobals_append (a b : List BLit) : bodyGlobals (a ++ b) = bodyGlobals a ++ bodyGlobals b :=
  List.flatMap_append

theorem mem_guards_sub {lg rg : Option Guard} (elems : List Term) {v : String}
    (h : v ∈ (optGuardTerms lg ++ optGuardTerms rg).flatMap Term.vars) :
    v ∈ (optGuardTerms lg ++ elems ++ optGuardTerms rg).flatMap Term.vars := by
  simp only [List.flatMap_append, List.mem_append] at h ⊢
  exact h.elim (fun h => .inl (.inl h)) .inr

theorem blitGlobals_sub (b : BLit) : ∀ v ∈ blitGlobals b, v ∈ b.vars := by
  intro v hv
  unfold blitGlobals at hv
  split at hv
  · exact mem_guards_sub _ hv
  · exact mem_guards_sub _ hv
  · exact hv
  · cases hv

theorem mem_bodyGlobals_flatMap {v : String} (f : BLit → List BLit) (b : List BLit)
    (h : ∀ x ∈ b, (v ∈ bodyGlobals (f x) ↔ v ∈ blitGlobals x)) :
    v ∈ bodyGlobals (b.flatMap f) ↔ v ∈ bodyGlobals b := by
  induction b with
  | nil => exact Iff.rfl
  | cons x xs ih =>
    rw [List.flatMap_cons, bodyGlobals_append, bodyGlobals_cons, List.mem_append, List.mem_append,
      h x List.mem_cons_self, ih fun y hy => h y (List.mem_cons_of_mem _ hy)]

theorem litVars_sub_litsTerms {c : List Lit} {l : Lit} (hl : l ∈ c) : ∀ v ∈ litVars l, v ∈ (litsTerms c).flatMap Term.vars := by
  induction c with
  | nil => cases hl
  | cons x xs ih =>
    intro v hv
    simp only [litsTerms, List.flatMap_append, List.mem_append]
    rcases List.mem_cons.mp hl with rfl | hl
    · exact Or.inl hv
    · exact Or.inr (ih hl v hv)

theorem litVars_fn (s : Sign) (n : String) (args : List Term) (ext : Bool) :
    litVars (s, .sym (.fn n args ext)) = args.flatMap Term.vars := by
  simp only [litVars, litTerms, Atom.terms, List.flatMap_cons, List.flatMap_nil, List.append_nil, Term.vars]

theorem blitGlobals_fn (s : Sign) (n : String) (args : List Term) (ext : Bool) :
    blitGlobals (.lit (s, .sym (.fn n args ext))) = args.flatMap Term.vars :=
  litVars_fn s n args ext

theorem blitGlobals_cmp (s : Sign) (t : Term) (gs : List Guard) :
    blitGlobals (.lit (s, .cmp t gs)) = t.vars ++ gs.flatMap fun g => g.term.vars :=
  congrArg _ (List.flatMap_map ..)

theorem mem_blitGlobals_cmp_cons {v : String} {s : Sign} {t : Term} {g : Guard} {gs : List Guard} :
    v ∈ blitGlobals (.lit (s, .cmp t (g :: gs))) ↔
      v ∈ blitGlobals (.lit (s, .cmp t [g])) ∨ v ∈ blitGlobals (.lit (s, .cmp g.term gs)) := by
  simp only [blitGlobals_cmp, List.flatMap_cons, List.flatMap_nil, List.append_nil, List.mem_append, or_assoc,
    or_self_left]

theorem stmSat_replace_blit {l c : Nat} (h : Head) (pre post : List BLit) {x x' : BLit}
    (hG : ∀ v, v ∈ blitGlobals x' ↔ v ∈ blitGlobals x)
    (hs : ∀ e X T, blitSat P.toParams (fun v => v ∈ ruleGlobals P h (pre ++ x :: post)) e X T x' ↔
      blitSat P.toParams (fun v => v ∈ ruleGlobals P h (pre ++ x :: post)) e X T x) (H T : Interp) :
    stmSat P H T (.rule l c h (pre ++ x' :: post)) ↔ stmSat P H T (.rule l c h (pre ++ x :: post)) :=
  stmSat_rule_congr h
    (fun v => by simp only [bodyGlobals_append, bodyGlobals_cons, List.mem_append, hG])
    (fun e X T => by rw [bodySat_append, bodySat_append, bodySat_cons, bodySat_cons, hs]) H T

structure BodyEq (Q : Params) (b' b : List BLit) : Prop where
  globals : ∀ v, v ∈ bodyGlobals b' ↔ v ∈ bodyGlobals b
  sat : ∀ G e H T, bodySat Q G e H T b' ↔ bodySat Q G e H T b

namespace BodyEq
variable {Q : Params} {b b' b'' : List BLit}

theorem trans (h : BodyEq Q b'' b') (h' : BodyEq Q b' b) : BodyEq Q b'' b :=
  ⟨fun v => (h.globals v).trans (h'.globals v), fun G e H T => (h.sat G e H T).trans (h'.sat G e H T)⟩

theorem of_same (hb : ∀ x, x ∈ b' ↔ x ∈ b) : BodyEq Q b' b :=
  ⟨fun _ => by simp only [bodyGlobals, List.mem_flatMap, hb], fun _ _ _ _ => by simp only [bodySat, hb]⟩

theorem refl (b : List BLit) : BodyEq Q b b := of_same fun _ => Iff.rfl

theorem single {l : List BLit} {x : BLit} (hG : ∀ v, v ∈ bodyGlobals l ↔ v ∈ blitGlobals x)
    (hs : ∀ G e H T, bodySat Q G e H T l ↔ blitSat Q G e H T x) : BodyEq Q l [x] :=
  ⟨fun v => (hG v).trans mem_bodyGlobals_singleton.symm, fun G e H T => (hs G e H T).trans bodySat_singleton.symm⟩

theorem one {x x' : BLit} (hG : ∀ v, v ∈ blitGlobals x' ↔ v ∈ blitGlobals x)
    (hs : ∀ G e H T, blitSat Q G e H T x' ↔ blitSat Q G e H T x) : BodyEq Q [x'] [x] :=
  single (fun v => mem_bodyGlobals_singleton.trans (hG v)) fun G e H T => bodySat_singleton.trans (hs G e H T)

/-- `map`, `filter` and `filterMap` are instances: rewrite with `List.map_eq_flatMap`, `List.filter_eq_flatMap`,
`List.filterMap_eq_flatMap`.  The same goes for `mem_bodyGlobals_flatMap`, `bodySat_flatMap`, `bTuples_flatMap`. -/
theorem flatMap (f : BLit → List BLit) (h : ∀ x ∈ b, BodyEq Q (f x) [x]) : BodyEq Q (b.flatMap f) b :=
  ⟨fun v => mem_bodyGlobals_flatMap f b fun x hx => ((h x hx).globals v).trans mem_bodyGlobals_singleton,
    fun _ _ _ _ => bodySat_flatMap f fun x hx => ((h x hx).sat ..).trans bodySat_singleton⟩

theorem stmSat_congr (h : BodyEq P.toParams b' b) {l c : Nat} (hd : Head) (H T : Interp) :
    stmSat P H T (.rule l c hd b') ↔ stmSat P H T (.rule l c hd b) :=
  stmSat_rule_congr hd h.globals (fun e X T => h.sat _ e X T) H T

theorem costTuples_congr (h : BodyEq P.toParams b' b) {l c : Nat} (w p : Term) (ts : List Term) (T : Interp)
    (x : Sym × Sym × List Sym) :
    costTuples P T (.minimize l c w p ts b') x ↔ costTuples P T (.minimize l c w p ts b) x := by
  have hG : (fun v => v ∈ bodyGlobals b' ++ (w :: p :: ts).flatMap Term.vars) =
      fun v => v ∈ bodyGlobals b ++ (w :: p :: ts).flatMap Term.vars :=
    funext fun v => propext (by simp only [List.mem_append, h.globals])
  simp only [costTuples, hG, h.sat]

end BodyEq

theorem strongEq_of_filterMap (f : Stm → Option Stm) (prg : Prog)
    (hsome : ∀ s ∈ prg, ∀ s', f s = some s' → ∀ H T, stmSat P H T s' ↔ stmSat P H T s)
    (hnone : ∀ s ∈ prg, f s = none → ∀ H T, stmSat P H T s) : StrongEq P prg (prg.filterMap f) := by
  intro H T
  simp only [Models, List.mem_filterMap]
  constructor
  · rintro hm s' ⟨s, hs, hr⟩; exact (hsome s hs s' hr H T).mpr (hm s hs)
  · intro hm s hs
    cases hr : f s with
    | none => exact hnone s hs hr H T
    | some s' => exact (hsome s hs s' hr H T).mp (hm s' ⟨s, hs, hr⟩)

end NgoVerif.Sem
