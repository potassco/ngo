import NgoVerif.Meta.Cover
/-!
# The executable specification of the auxiliary order predicates (C20)

From the integer values of a domain (one group) compute its least element, greatest element and covering relation.
`sortInts` is insertion sort with duplicate removal; `Cover.consecutive` on its result *is* the covering relation
(`Props/C20.lean`).  Core Lean only, so the driver can run it on the extensions clingo reports.
-/
namespace NgoVerif

def insertInt (x : Int) : List Int → List Int
  | [] => [x]
  | y :: ys => if x < y then x :: y :: ys else if x = y then y :: ys else y :: insertInt x ys

def sortInts (l : List Int) : List Int := l.foldr insertInt []

/-- (least, greatest, covering pairs) of the value set -/
def orderSpec (l : List Int) : Option Int × Option Int × List (Int × Int) :=
  let s := sortInts l
  (s.head?, s.getLast?, Cover.consecutive s)

theorem mem_insertInt (a x : Int) (l : List Int) : a ∈ insertInt x l ↔ a = x ∨ a ∈ l := by
  -- the branches of `insertInt` in order: `[]`, `x < y`, `x = y`, `y < x`
  fun_induction insertInt x l with
  | case1 => simp
  | case2 y ys _ => simp
  | case3 ys _ => simp
  | case4 y ys _ _ ih => simp [ih, or_left_comm]

theorem sorted_insertInt (x : Int) (l : List Int) (h : l.Pairwise (· < ·)) : (insertInt x l).Pairwise (· < ·) := by
  fun_induction insertInt x l with
  | case1 => simp
  | case2 y ys hxy =>
    exact List.pairwise_cons.mpr
      ⟨List.forall_mem_cons.mpr ⟨hxy, fun a ha => Int.lt_trans hxy (List.rel_of_pairwise_cons h ha)⟩, h⟩
  | case3 ys _ => exact h
  | case4 y ys _ _ ih =>
    obtain ⟨hy, hys⟩ := List.pairwise_cons.mp h
    refine List.pairwise_cons.mpr ⟨fun a ha => ?_, ih hys⟩
    rcases (mem_insertInt a x ys).mp ha with rfl | ha
    · omega
    · exact hy a ha

theorem sortInts_cons (x : Int) (l : List Int) : sortInts (x :: l) = insertInt x (sortInts l) := rfl

theorem mem_sortInts (a : Int) : ∀ l : List Int, a ∈ sortInts l ↔ a ∈ l
  | [] => Iff.rfl
  | x :: xs => by rw [sortInts_cons, mem_insertInt, mem_sortInts a xs, List.mem_cons]

theorem sorted_sortInts : ∀ l : List Int, (sortInts l).Pairwise (· < ·)
  | [] => List.Pairwise.nil
  | x :: xs => sorted_insertInt x _ (sorted_sortInts xs)

end NgoVerif
