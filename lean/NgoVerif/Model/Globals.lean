import NgoVerif.Model.Collect
/-!
# Model of `ngo/utils/globals.py`: auto-detection of input/output predicates, `UniqueNames`,
`UniqueVariables`
-/
namespace NgoVerif

def Pred.le (a b : Pred) : Bool := a.name < b.name || (a.name == b.name && a.arity ≤ b.arity)

/-- insert in order -/
def insertOrd (p : Pred) : List Pred → List Pred
  | [] => [p]
  | q :: qs => if Pred.le p q then p :: q :: qs else q :: insertOrd p qs

/-- insert into a sorted duplicate-free list (Python: `sorted(set(..))`) -/
def insertSorted (p : Pred) (l : List Pred) : List Pred :=
  if l.contains p then l else insertOrd p l

def sortDedup (ps : List Pred) : List Pred := ps.foldr insertSorted []

def Stm.allPreds (s : Stm) : List Pred := (s.preds allSigns).map (·.pred)
def Stm.derivablePreds (s : Stm) : List Pred := s.headDerivable.map (·.pred)
def Stm.usedInBody (s : Stm) : List Pred := ((s.bodyPreds allSigns) ++ (s.minimizePreds allSigns)).map (·.pred)

def Prog.allPreds (prg : Prog) : List Pred := prg.flatMap Stm.allPreds
def Prog.derivablePreds (prg : Prog) : List Pred := prg.flatMap Stm.derivablePreds

/-- `in_body[p] == in_head[p]` as sets of statement indices -/
def sameDefUse (prg : Prog) (p : Pred) : Bool :=
  prg.all fun s => (s.usedInBody.contains p) == (s.derivablePreds.contains p)

/-- `auto_detect_input`: the sorted first part and the (hash-ordered in Python, here sorted) second part -/
def autoDetectInputParts (prg : Prog) : List Pred × List Pred :=
  let all := prg.allPreds
  let der := prg.derivablePreds
  (sortDedup (all.filter fun p => !der.contains p), sortDedup (all.filter (sameDefUse prg)))

/-- the returned list as a set (sorted, duplicate free) -/
def autoDetectInput (prg : Prog) : List Pred :=
  let (a, b) := autoDetectInputParts prg
  sortDedup (a ++ b)

/-- `auto_detect_output` -/
def autoDetectOutput (prg : Prog) : List Pred :=
  sortDedup <| prg.flatMap fun s =>
    match s with
    | .showSig n a _ => [⟨n, a⟩]
    | .showTerm _ b => (bodyPreds allSigns b).map (·.pred)
    | _ => []

/-! ## `UniqueNames` -/

structure UniqueNames where
  auxcounter : Nat
  preds : List Pred
  deriving Repr

def AUX_FUNC : String := "__aux_"

/-- the signatures of `#show p/n.` statements count as taken (fix recorded as `fixed:` in known_findings.json) -/
def showSigs (prg : Prog) : List Pred :=
  prg.filterMap fun s => match s with
    | .showSig n k _ => some ⟨n, k⟩
    | _ => none

def UniqueNames.init (prg : Prog) (inputs : List Pred) : UniqueNames :=
  ⟨0, inputs ++ prg.allPreds ++ showSigs prg⟩

/-- first `k' ≥ k` (within `fuel` candidates) with `mk k' ∉ known` -/
def findFree (mk : Nat → Pred) (known : List Pred) : Nat → Nat → Option Nat
  | 0, _ => none
  | fuel + 1, k => if known.contains (mk k) then findFree mk known fuel (k + 1) else some k

def auxName (arity : Nat) (k : Nat) : Pred := ⟨AUX_FUNC ++ toString k, arity⟩

/-- `new_auxpredicate`: `none` would be "the while loop never ends" (impossible, see `Proofs.C07.newAux_spec`). -/
def UniqueNames.newAux (s : UniqueNames) (arity : Nat) : Option (Pred × UniqueNames) :=
  let c := s.auxcounter + 1
  if s.preds.contains (auxName arity c) then
    match findFree (auxName arity) s.preds (s.preds.length + 1) c with
    | none => none
    | some n => some (auxName arity n, ⟨n + 1, auxName arity n :: s.preds⟩)
  else some (auxName arity c, ⟨c, auxName arity c :: s.preds⟩)

def similarName (similar : String) (arity : Nat) (k : Nat) : Pred :=
  if k == 0 then ⟨similar, arity⟩ else ⟨similar ++ toString k, arity⟩

/-- `new_predicate(similar, arity)` -/
def UniqueNames.newPred (s : UniqueNames) (similar : String) (arity : Nat) : Option (Pred × UniqueNames) :=
  match findFree (similarName similar arity) s.preds (s.preds.length + 1) 0 with
  | none => none
  | some n => some (similarName similar arity n, ⟨s.auxcounter, similarName similar arity n :: s.preds⟩)

/-! ## `UniqueVariables` -/

structure UniqueVars where
  all : List String
  deriving Repr

def UniqueVars.init (s : Stm) : UniqueVars := ⟨s.vars⟩

def findFreeVar (base : String) (known : List String) : Nat → Nat → Option Nat
  | 0, _ => none
  | fuel + 1, k => if known.contains (base ++ toString k) then findFreeVar base known fuel (k + 1) else some k

/-- `make_unique(var)` -/
def UniqueVars.makeUnique (u : UniqueVars) (v : String) : Option (String × UniqueVars) :=
  if v == "_" then some (v, u)
  else if !u.all.contains v then some (v, ⟨u.all ++ [v]⟩)
  else match findFreeVar v u.all (u.all.length + 1) 0 with
    | none => none
    | some n => some (v ++ toString n, ⟨u.all ++ [v ++ toString n]⟩)

end NgoVerif
