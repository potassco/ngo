import NgoVerif.Sexp
import NgoVerif.Syntax
import NgoVerif.Proofs.C09link
import NgoVerif.Proofs.C11check
import NgoVerif.Proofs.C16stm
import NgoVerif.Proofs.C05sem
import NgoVerif.Proofs.C10multi
import NgoVerif.Proofs.C20dom
import NgoVerif.Proofs.C08impl
import NgoVerif.Proofs.C08trans
import NgoVerif.Proofs.C08anon
import NgoVerif.Proofs.C08anonStm
import NgoVerif.Proofs.C08anonObj
/-!
# Driver ops that evaluate the *side conditions of the end-to-end theorems* on what the real passes did

* `(sem_sym_cond <rule> (("X" "Y") ("U" "V") …))` → `(ok <pairs disjoint> <body symmetric> <globals closed> <head fixed>)`: the
  decidable parts of `Proofs.C11sem.Symmetric` for the rule *before* `symmetry` replaced its literal `X != Y` by
  `X < Y`, with `σ` the involution exchanging the members of each listed pair (`(unsupported …)` if the rule has no
  such literal).
* `(sem_split_cond <rule> <aux rule> <updated rule> <context program>)` → `(ok <splitCheck> <ctxCheck> <aux rule> <updated rule>)`:
  `Proofs.C16stm.splitCheck` / `ctxCheck` for the split `projection` made of `<rule>`; the two rules the theorem speaks about
  are returned and compared by the harness with what the real pass emitted.
* `(sem_dup_cond <rule> <canonical aux rule> <rewritten rule> <context>)` → `(ok <renaming ok> <splitCheck> <ctxCheck> <aux rule> <rewritten rule>)`:
  `Proofs.C10stm.dupCheck` for the FIRST place of use of a literal set factored out by `duplication`.
* `(sem_dup_all <canonical aux rule> ((<rule before> <rule after>) …) <context>)` → `(ok <some place> <every placeCheck> <ctxAvoidsCheck> <aux rule> ((<before> <after>) …))`:
  `Proofs.C10multi.placeCheck` for ALL places of use of one factored literal set (hypotheses of `C10_factor_all_*`).
* `(sem_dom_cond <prog> ((("p" n) "dom") …))` → `(ok <coveredCheck>)`: the hypothesis of `C20_domain_overapproximates`.
* `(sem_implied_cond <pre> <rule before> <rule after> <post> <rule with body [p literal]> <rule with body [q literal]>)` →
  `(ok <impliedCheck> <same literals>)`: the hypotheses of `C08_remove_implied_typed` for ONE deletion `cleanup` made:
  `q` deleted from the rule because of `p`, `pre`/`post` the other statements at that moment.
* `(sem_anon_cond <rule before> <rule after> <rule with body [p literal]> <rule with body [q literal]> ("v" …))` →
  `(ok <anonCheck> <same literals>)`: the hypotheses of `C08_remove_weaker_copy_strongeq` for one deletion of a literal of the
  SAME predicate (`p(X), p(_)`), `("v" …)` the variables of `q` that occur nowhere else (the renamed-apart `_`).
* `(sem_anon_in <rule before> <rule after> i j <rule with body [p literal]> <rule with body [q literal]> ("v" …))` →
  `(ok <condCheck> <same literals> <the other parts coincide>)`: the hypotheses of `C08_remove_weaker_copy_in_condition`
  for a weaker copy deleted inside the condition of body literal `i` (a conditional literal: `j` = -1; element `j` of a
  body aggregate otherwise).
* `(sem_anon_obj <objective before> <objective after> <rule with body [p literal]> <rule with body [q literal]> ("v" …))` →
  `(ok <objCheck> <same literals>)`: the hypothesis of `C08_weaker_copy_in_objective_costs`.
* `(sem_implied_obj <pre> <objective before> <objective after> <post> <rule with body [p literal]> <rule with body [q literal]>)` →
  `(ok <objImpliedCheck> <same literals>)`: the hypothesis of `C08_remove_implied_in_objective`.
* `(sem_okstm <stm>)` → `(ok <okBody>)`: the hypothesis of the `_partial` theorems about `expand_comparisons`.
* `(sem_unused_cond <prog> "n" k)` → `(ok <every statement stmOk> <Unused n k prog>)`: the hypothesis of
  `C09_removal_sound/complete` for the program `unused` removed the rules of `n/k` from.
The checks are the executable definitions `Proofs.C11check.symCheck` and `Proofs.C09sem.unusedCheck`, whose answer `true`
is proved to imply the theorems' hypotheses (`symCheck_sound`, `C09_check_sound`); equality of literals is the proved
test of `Sem/DecEq.lean`.
-/
namespace NgoVerif
open Sexp

namespace SemCond
open Proofs.C11sem Proofs.C09sem Proofs.C09link

def removeFirst (x : BLit) : List BLit → Option (List BLit)
  | [] => none
  | y :: ys => if blitEqb y x then some ys else (removeFirst x ys).map (y :: ·)

end SemCond

def handleSem : Sexp → Option Sexp
  | .list [.atom "sem_sym_cond", s, .list pairs] =>
    some <| match Stm.ofSexp s, pairs.mapM (fun p => match p with | .list [.str a, .str b] => some (a, b) | _ => none) with
      | some (.rule _ _ h b), some ((X, Y) :: more) =>
        match SemCond.removeFirst (Proofs.C11sem.cmpBLit X .ne Y) b with
        | some b' =>
          let ps := (X, Y) :: more
          let σ := Proofs.C11check.swaps ps
          -- the conjunction of the four answers is `Proofs.C11check.symCheck ps X Y h b'` (sound: `symCheck_sound`)
          .list [.atom "ok", ofBool (Proofs.C11check.involOk ps && σ X == Y), ofBool (Proofs.C11check.symBody σ b'),
                 ofBool (Proofs.C11check.symGlobals σ X Y h b'), ofBool (Proofs.C11check.symHead σ h)]
        | none => .list [.atom "unsupported", .str "no literal X != Y"]
      | _, _ => .list [.atom "unsupported", .str "rule or pairs"]
  | .list [.atom "sem_unused_cond", p, .str n, k] =>
    some <| match Prog.ofSexp p, k.toNat? with
      | some prg, some k => .list [.atom "ok", ofBool (prg.all fun s => Proofs.C09link.stmOk s), ofBool (Proofs.C09sem.unusedCheck n k prg)]
      | _, _ => .list [.atom "unsupported", .str "program"]
  | .list [.atom "sem_okstm", s] =>
    -- the hypothesis of `C05_expand_comparisons_strongeq_partial` (no negated multi-guard comparison) for one statement
    some <| match Stm.ofSexp s with
      | some (.rule _ _ _ b) => .list [.atom "ok", ofBool (Proofs.C05sem.okBody b)]
      | some (.minimize _ _ _ _ _ b) => .list [.atom "ok", ofBool (Proofs.C05sem.okBody b)]
      | some _ => .list [.atom "ok", ofBool true]
      | none => .list [.atom "unsupported", .str "statement"]
  | .list [.atom "sem_split_cond", o, a, u, p] =>
    some <| match Stm.ofSexp o, Stm.ofSexp a, Stm.ofSexp u, Prog.ofSexp p with
      | some (.rule l c h body), some (.rule _ _ (.lit (.pos, .sym (.fn auxName args false))) new), some (.rule _ _ _ ubody),
        some ctx =>
        match args.mapM (fun t => match t with | .var v => some v | _ => none) with
        | some vs =>
          let S : Proofs.C16stm.Split :=
            { line := l, col := c, head := h, body := body, new := new, rest := ubody.dropLast, vs := vs, auxName := auxName }
          -- `S.auxRule`, `S.updRule` are returned so that the harness can compare them with what the real pass emitted
          .list [.atom "ok", ofBool (Proofs.C16stm.splitCheck S), ofBool (Proofs.C16stm.ctxCheck S ctx []),
                 S.auxRule.toSexp, S.updRule.toSexp]
        | none => .list [.atom "unsupported", .str "auxiliary head arguments are not variables"]
      | _, _, _, _ => .list [.atom "unsupported", .str "rules"]
  | .list [.atom "sem_dup_cond", o, a, u, p] =>
    -- one place of use of a factored literal set: `o` the rule before, `a` the canonical auxiliary rule, `u` the rule after
    -- (`… , aux(args)` last), `p` the context
    some <| match Stm.ofSexp o, Stm.ofSexp a, Stm.ofSexp u, Prog.ofSexp p with
      | some (.rule l c h body), some (.rule la ca (.lit (.pos, .sym (.fn auxName vterms false))) sb), some (.rule _ _ _ ubody),
        some ctx =>
        match vterms.mapM (fun t => match t with | .var v => some v | _ => none), ubody.getLast? with
        | some V, some (.lit (.pos, .sym (.fn _ aterms false))) =>
          match aterms.mapM (fun t => match t with | .var v => some v | _ => none) with
          | some args =>
            let use := Proofs.C10stm.useOf l c h body ubody.dropLast auxName V args sb la ca
            .list [.atom "ok", ofBool (V.length == args.length && Proofs.C11check.involOk (V.zip args)),
                   ofBool (Proofs.C16stm.splitCheck use.split), ofBool (Proofs.C16stm.ctxCheck use.split ctx []),
                   use.canon.toSexp, use.split.updRule.toSexp]
          | none => .list [.atom "unsupported", .str "arguments of the auxiliary atom are not variables"]
        | _, _ => .list [.atom "unsupported", .str "shape of the auxiliary rule / the rewritten rule"]
      | _, _, _, _ => .list [.atom "unsupported", .str "rules"]
  | .list [.atom "sem_dup_all", a, .list uses, p] =>
    -- ALL places of use of one factored literal set: `a` the canonical auxiliary rule, `uses` = ((<rule before> <rule after>) …),
    -- `p` the context (every other statement of the rewritten program)
    some <| match Stm.ofSexp a, Prog.ofSexp p with
      | some (.rule la ca (.lit (.pos, .sym (.fn auxName vterms false))) sb), some ctx =>
        match vterms.mapM (fun t => match t with | .var v => some v | _ => none) with
        | some V =>
          let c : Proofs.C10multi.Canon := { auxName := auxName, V := V, Sb := sb, la := la, ca := ca }
          let one (u : Sexp) : Option (Bool × Sexp × Sexp) :=
            match u with
            | .list [o, r] =>
              match Stm.ofSexp o, Stm.ofSexp r with
              | some (.rule l cl h body), some (.rule _ _ _ ubody) =>
                match ubody.getLast? with
                | some (.lit (.pos, .sym (.fn _ aterms false))) =>
                  match aterms.mapM (fun t => match t with | .var v => some v | _ => none) with
                  | some args =>
                    let pairs := V.zip args
                    let pl := Proofs.C10multi.placeOf l cl h body ubody.dropLast pairs
                    some (V.length == args.length && Proofs.C10multi.placeCheck c l cl h body ubody.dropLast pairs,
                          (c.split pl).orig.toSexp, (c.split pl).updRule.toSexp)
                  | none => none
                | _ => none
              | _, _ => none
            | _ => none
          match uses.mapM one with
          | some rs =>
            .list [.atom "ok", ofBool (!rs.isEmpty), ofBool (rs.all (·.1)), ofBool (Proofs.C10multi.ctxAvoidsCheck c ctx),
                   c.stm.toSexp, .list (rs.map fun r => .list [r.2.1, r.2.2])]
          | none => .list [.atom "unsupported", .str "shape of a place of use"]
        | none => .list [.atom "unsupported", .str "auxiliary head arguments are not variables"]
      | _, _ => .list [.atom "unsupported", .str "auxiliary rule / context"]
  | .list [.atom "sem_dom_cond", p, .list ms] =>
    -- `ms` = ((("p" n) "dom name") …): the hypothesis of `C20_domain_overapproximates` for the program `p`
    some <| match Prog.ofSexp p, ms.mapM (fun x => match x with
        | .list [.list [.str n, k], .str d] => k.toNat?.map fun k' => ((n, k'), d)
        | _ => none) with
      | some prg, some m => .list [.atom "ok", ofBool (Proofs.C20dom.coveredCheck m prg)]
      | _, _ => .list [.atom "unsupported", .str "program / map"]
  | .list [.atom "sem_implied_cond", pre, o, u, post, pr, qr] =>
    some <| match Prog.ofSexp pre, Stm.ofSexp o, Stm.ofSexp u, Prog.ofSexp post, Stm.ofSexp pr, Stm.ofSexp qr with
      | some pre, some (.rule l c h bb), some (.rule _ _ _ ab), some post,
        some (.rule _ _ _ [.lit (.pos, .sym (.fn pn pargs false))]), some (.rule _ _ _ [.lit (.pos, .sym (.fn qn qargs false))]) =>
        let R : Proofs.C08impl.Rewrite :=
          { pre := pre, post := post, line := l, col := c, head := h, body := ab, pn := pn, pargs := pargs, qn := qn, qargs := qargs }
        -- `bb` and `q :: ab` have the same literals (hypothesis `hmem` of the theorem)
        let same := Proofs.C08impl.sameLits bb (R.qLit :: ab)
        -- the three conjuncts of `impliedCheck` are also reported one by one (coverage statistics of the harness)
        -- the direct check, or the implication followed through chains of predicates to depth 4 (`C08_remove_implied_typed_chain`)
        let direct := Proofs.C08impl.impliedCheck R
        let chain := Proofs.C08trans.impliedCheckT 3 R
        .list [.atom "ok", ofBool (direct || chain), ofBool same, ofBool (R.src.all Proofs.C08impl.okStm),
               ofBool (blitMem R.pLit R.body), ofBool (R.src.all (Proofs.C08impl.ruleImplies R.pn R.pargs R.qn R.qargs) || chain),
               ofBool (!direct && chain)]
      | _, _, _, _, _, _ => .list [.atom "unsupported", .str "rules / literals"]
  | .list [.atom "sem_anon_cond", o, u, pr, qr, .list fs] =>
    some <| match Stm.ofSexp o, Stm.ofSexp u, Stm.ofSexp pr, Stm.ofSexp qr,
        fs.mapM (fun x => match x with | .str v => some v | _ => none) with
      | some (.rule l c h bb), some (.rule _ _ _ ab), some (.rule _ _ _ [.lit (.pos, .sym (.fn pn sargs false))]),
        some (.rule _ _ _ [.lit (.pos, .sym (.fn qn targs false))]), some F =>
        let A : Proofs.C08anon.Anon :=
          { line := l, col := c, head := h, body := ab, pn := pn, sargs := sargs, targs := targs, F := F }
        .list [.atom "ok", ofBool (pn == qn && Proofs.C08anon.anonCheck A), ofBool (Proofs.C08impl.sameLits bb (A.qLit :: ab))]
      | _, _, _, _, _ => .list [.atom "unsupported", .str "rules / literals"]
  | .list [.atom "sem_anon_in", o, u, si, sj, pr, qr, .list fs] =>
    some <| match Stm.ofSexp o, Stm.ofSexp u, si.toNat?, sj.toInt?, Stm.ofSexp pr, Stm.ofSexp qr,
        fs.mapM (fun x => match x with | .str v => some v | _ => none) with
      | some (.rule _ _ _ bb), some (.rule _ _ h ab), some i, some j,
        some (.rule _ _ _ [.lit (.pos, .sym (.fn pn sargs false))]), some (.rule _ _ _ [.lit (.pos, .sym (.fn qn targs false))]), some F =>
        let pre := ab.take i
        let post := ab.drop (i + 1)
        let listEq : List BLit → List BLit → Bool := fun xs ys => xs.length == ys.length && (xs.zip ys).all fun p => blitEqb p.1 p.2
        match bb[i]?, ab[i]? with
        | some (.clit (hd, cfull)), some (.clit (hd', cond)) =>
          if j != -1 then .list [.atom "unsupported", .str "element index for a conditional literal"] else
          let A : Proofs.C08anonCond.CondAnon := { cond := cond, pn := pn, sargs := sargs, targs := targs, F := F }
          .list [.atom "ok", ofBool (pn == qn && Proofs.C08anonCond.condCheck A (Proofs.C08anonStm.outsideClit h pre post hd')),
                 ofBool (Proofs.C08anonStm.sameLitList cfull (A.qLit :: cond)),
                 ofBool (litEqb hd hd' && listEq (bb.take i) pre && listEq (bb.drop (i + 1)) post)]
        | some (.lit (s, .bagg _ _ lg f es rg)), some (.lit (s', .bagg _ _ lg' f' es' rg')) =>
          let k := j.toNat
          match es[k]?, es'[k]? with
          | some (ts, cfull), some (ts', cond) =>
            let epre := es'.take k
            let epost := es'.drop (k + 1)
            let A : Proofs.C08anonCond.CondAnon := { cond := cond, pn := pn, sargs := sargs, targs := targs, F := F }
            .list [.atom "ok",
                   ofBool (j ≥ 0 && pn == qn && Proofs.C08anonCond.condCheck A (Proofs.C08anonStm.outsideBagg h pre post lg' rg' epre epost ts')),
                   ofBool (Proofs.C08anonStm.sameLitList cfull (A.qLit :: cond)),
                   ofBool (s == s' && f == f' && optGuardEqb lg lg' && optGuardEqb rg rg' && termsEqb ts ts' &&
                     bElemsEqb (es.take k) epre && bElemsEqb (es.drop (k + 1)) epost &&
                     listEq (bb.take i) pre && listEq (bb.drop (i + 1)) post)]
          | _, _ => .list [.atom "unsupported", .str "element index"]
        | _, _ => .list [.atom "unsupported", .str "body literal at the index"]
      | _, _, _, _, _, _, _ => .list [.atom "unsupported", .str "rules / literals"]
  | .list [.atom "sem_implied_obj", pre, o, u, post, pr, qr] =>
    some <| match Prog.ofSexp pre, Stm.ofSexp o, Stm.ofSexp u, Prog.ofSexp post, Stm.ofSexp pr, Stm.ofSexp qr with
      | some pre, some (.minimize l c w p ts bb), some (.minimize _ _ w' p' ts' ab), some post,
        some (.rule _ _ _ [.lit (.pos, .sym (.fn pn pargs false))]), some (.rule _ _ _ [.lit (.pos, .sym (.fn qn qargs false))]) =>
        let R : Proofs.C08impl.ObjRewrite :=
          { pre := pre, post := post, line := l, col := c, weight := w', prio := p', terms := ts', body := ab, pn := pn, pargs := pargs,
            qn := qn, qargs := qargs }
        .list [.atom "ok", ofBool (Proofs.C08impl.objImpliedCheck R),
               ofBool (termEqb w w' && termEqb p p' && termsEqb ts ts' && Proofs.C08impl.sameLits bb (R.qLit :: ab))]
      | _, _, _, _, _, _ => .list [.atom "unsupported", .str "objectives / literals"]
  | .list [.atom "sem_anon_obj", o, u, pr, qr, .list fs] =>
    some <| match Stm.ofSexp o, Stm.ofSexp u, Stm.ofSexp pr, Stm.ofSexp qr,
        fs.mapM (fun x => match x with | .str v => some v | _ => none) with
      | some (.minimize l c w p ts bb), some (.minimize _ _ w' p' ts' ab), some (.rule _ _ _ [.lit (.pos, .sym (.fn pn sargs false))]),
        some (.rule _ _ _ [.lit (.pos, .sym (.fn qn targs false))]), some F =>
        let A : Proofs.C08anonObj.ObjAnon :=
          { line := l, col := c, weight := w', prio := p', terms := ts', body := ab, pn := pn, sargs := sargs, targs := targs, F := F }
        .list [.atom "ok", ofBool (pn == qn && Proofs.C08anonObj.objCheck A),
               ofBool (termEqb w w' && termEqb p p' && termsEqb ts ts' && Proofs.C08impl.sameLits bb (A.qLit :: ab))]
      | _, _, _, _, _ => .list [.atom "unsupported", .str "objectives / literals"]
  | _ => none

end NgoVerif
